/-
  HidiProofs.EngineSimStep — the monitor of one step (`Spec.checkStep`) clause by clause: when no clause fails
  (`checkStep_nil`), and the invariants of the simulation between the device model and the monitor's book.
-/
import HidiProofs.EngineSimBase
namespace Hidi.EngineSim
open Hidi Hidi.Spec

theorem checkStep_snd (cfg : Config) (i : Nat) (b : Book) (st : Step) (held : Option Nat) (aa : Bool) :
    (checkStep cfg i b st held aa).2 =
      ⟨st.st, (expectStep cfg b aa st.ev).2.down, (expectStep cfg b aa st.ev).2.pinned,
        (expectStep cfg b aa st.ev).2.acts, sounding b.snd st.outs, (expectStep cfg b aa st.ev).2.ok,
        b.dead || st.outs.contains .panic⟩ := by
  unfold checkStep
  rfl

theorem midi_no_panic {o : List Out} (h : o.all isMidi = true) : o.contains Out.panic = false := by
  cases hc : o.contains Out.panic with
  | false => rfl
  | true => cases List.all_eq_true.mp h _ (List.contains_iff_mem.mp hc)

theorem midi_no_sig {o : List Out} (h : o.all isMidi = true) : Out.sig ∉ o :=
  fun hm => by cases List.all_eq_true.mp h _ hm

theorem midi_sigCount {o : List Out} (h : o.all isMidi = true) : sigCount o = 0 := by
  unfold sigCount
  rw [List.length_eq_zero_iff, List.filter_eq_nil_iff]
  intro x hx
  have := List.all_eq_true.mp h x hx
  cases x <;> simp [isMidi] at this ⊢

theorem checkStep_nil {cfg : Config} {i : Nat} {b : Book} {st : Step} {held : Option Nat} {aa : Bool}
    {x : Expect × Book} (he : expectStep cfg b aa st.ev = x) (h05 : st.outs.all wellFormed = true)
    (hcl : if x.1.swallowed = true then
        st.outs = [.sig] ∧ stateKeyOf st.st = stateKeyOf b.pre ∧ st.st.notes = b.pre.notes
      else st.outs.all isMidi = true ∧ ((stateActionOf cfg st.ev).isSome = true → st.outs = []))
    (hok : x.2.ok = true →
      (∀ o, x.1.outs = some o → st.outs = o) ∧ (∀ s, x.1.st = some s → stateKeyOf st.st = s) ∧
      (∀ n h, x.1.notes = some n → held = some h → st.st.notes = n + h) ∧
      (x.2.down = [] → held = some 0 → sounding b.snd st.outs = []) ∧
      (actionOf cfg st.ev = some .panic → x.1.swallowed = false →
        stateKeyOf st.st = stateKeyOf b.pre ∧ st.st.notes = b.pre.notes)) :
    (checkStep cfg i b st held aa).1 = [] := by
  obtain ⟨e, b'⟩ := x
  have h14 : sigCount st.outs = if e.swallowed = true then 1 else 0 := by
    split at hcl
    · rw [hcl.1, if_pos ‹_›]; rfl
    · rw [midi_sigCount hcl.1, if_neg ‹_›]
  unfold checkStep
  rw [he]
  dsimp -zeta only
  -- `f1` … `f9`: the failures after each clause, in the monitor's order; each adds to the one before (none, by then)
  extract_lets ok acc f0 f1 f2 f3 f4 f5 foreign f6 f7 f8 snd f9 x
  have e1 : f1 = [] := by simp [f1, f0, h14]
  have e2 : f2 = [] := by
    simp only [f2, e1]
    rw [if_neg]
    rintro ⟨hs, h⟩
    rw [if_pos hs] at hcl
    simp [hcl.1, hcl.2.1, hcl.2.2] at h
  have e3 : f3 = [] := by simp [f3, e2, h05]
  have e4 : f4 = [] := by
    simp only [f4, e3]
    rw [if_neg]
    rintro ⟨ha, h⟩
    split at hcl
    · simp [hcl.1, isMidi] at h
    · simp [hcl.2 ha] at h
  have e5 : f5 = [] := by
    simp only [f5, e4]
    refine ite_eq_right_iff.mpr fun hc => ?_
    split
    · obtain ⟨h1, -, -, -, h5⟩ := hok hc.1
      have := h5 hc.2.2.1 (by simpa using hc.2.2.2)
      simp [h1 _ ‹_›, this.1, this.2]
    · rfl
  have e6 : f6 = [] := by
    simp only [f6, e5]
    refine ite_eq_right_iff.mpr fun hc => ?_
    split
    · rw [if_pos ((hok hc.1).1 _ ‹_›)]
    · rfl
  have e7 : f7 = [] := by
    simp only [f7, e6]
    refine ite_eq_right_iff.mpr fun hc => ?_
    split
    · rw [if_neg (fun h => h ((hok hc.1).2.1 _ ‹_›))]
    · rfl
  have e8 : f8 = [] := by
    simp only [f8, e7]
    refine ite_eq_right_iff.mpr fun hc => ?_
    split
    · rw [if_neg (fun h => h ((hok hc.1).2.2.1 _ _ ‹_› rfl))]
    · rfl
  have e9 : f9 = [] := by
    simp only [f9, e8]
    rw [if_neg]
    rintro ⟨h1, -, h2, h3, h4⟩
    exact h4 ((hok h1).2.2.2.1 h2 h3)
  simp only [x, e9, ite_self]

/-- facts about a reachable model state on key-only histories of an accepted configuration -/
structure DInv (cfg : Config) (d : Dev) : Prop where
  cfg_eq : d.cfg = cfg
  dead : d.dead = false
  ana : d.anaTr = []
  ch : d.channel < 16
  map : d.mapping < cfg.maps.length
  vel : d.velocity = u8 cfg.vel
  /-- octave and semitone are Go `int`s (`device.go`): no bound is needed -/
  oct : True
  semi : True
  wf : ∀ p ∈ d.noteTr, p.2.1 ≤ 127 ∧ p.2.2 < 16

/-- `snd`: what a receiver hears (`Spec.Book.snd`) -/
structure Core (d : Dev) (snd : List (Nat × Nat)) : Prop where
  nodup : (akeys d.noteTr).Nodup
  cnt : ∀ ch n, d.count ch n = (holders d.noteTr (n, ch) : Int)
  snd : ∀ p ∈ snd, ∃ k, (k, (p.2, p.1)) ∈ d.noteTr

structure OkInv (cfg : Config) (d : Dev) (b : Book) : Prop where
  pinned : b.pinned = d.noteTr
  acts : b.acts = d.actTr
  core : Core d b.snd
  keys : ∀ k ∈ akeys d.noteTr, k ∈ d.keyTr ∧ alookup k cfg.actions = none

structure Inv (cfg : Config) (d : Dev) (b : Book) : Prop where
  dinv : DInv cfg d
  pre : b.pre = StObs.ofDev d
  down : b.down = d.keyTr
  bdead : b.dead = false
  okp : b.ok = true → OkInv cfg d b

def okOut (x : Out) : Bool := wellFormed x && isMidi x

theorem okOut_wf {o : List Out} (h : o.all okOut = true) : o.all wellFormed = true := by
  simp only [List.all_eq_true, okOut, Bool.and_eq_true] at h ⊢
  exact fun x hx => (h x hx).1

theorem okOut_on {ch n v : Nat} (hc : ch < 16) (hn : n ≤ 127) (hv : v ≤ 127) : okOut (noteOnMsg ch n v) = true := by
  simp [okOut, noteOnMsg_wf hc hn hv]; simp [noteOnMsg, isMidi]

theorem okOut_off {ch n : Nat} (hc : ch < 16) (hn : n ≤ 127) : okOut (noteOffMsg ch n) = true := by
  simp [okOut, noteOffMsg_wf hc hn]; simp [noteOffMsg, isMidi]

end Hidi.EngineSim
