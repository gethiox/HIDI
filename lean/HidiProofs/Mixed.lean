/-
  HidiProofs.Mixed — an invariant of the device model over *all* events (keys, axes of every type incl. key and action
  emulation, SYN, MIDI input), used for the no-stuck-notes theorems on mixed histories (C01, axis clause included).

  `MInv cfg d snd` is C05's `DevOK` (channel < 16, the trackers hold real notes and channels) and `EngineSim.Tracks` with
  a deflected key-emulating axis as the second explanation: **everything a receiver hears is still tracked** — by a held
  key (`noteTracker`) or by a deflected axis (`analogNoteTracker`); the axis tracker has one entry per side.
  The only hypothesis on histories is `OKHistory`: key values 0/1/2, and a key is pressed only while it is up (`EvOK`).
  `Keeps` is the invariant as a relation between a state and the result of an operation, the shape the rules of
  `Handlers` ask for; a key event keeps `Tracks` by `handleKey_tracks`.
-/
import HidiProofs.Tracks
import HidiProofs.Props.C05full
namespace Hidi.Mixed
open Hidi Hidi.Spec Hidi.EngineSim Hidi.Props.C05 Hidi.Handlers

/-- the pair `p = (channel, note)` is recorded for a held key or a deflected axis -/
def Tracked (d : Dev) (p : Nat × Nat) : Prop :=
  (∃ k, (k, (p.2, p.1)) ∈ d.noteTr) ∨ (∃ id, (id, (p.2, p.1)) ∈ d.anaTr)

/-- `Tracks`, the second explanation of what sounds being a deflected key-emulating axis (so `snd` unfolds to
    `∀ p ∈ snd, Tracked d p`), on top of C05's `DevOK` -/
structure MInv (cfg : Config) (d : Dev) (snd : List (Nat × Nat)) : Prop extends Tracks (Held d.anaTr) d snd where
  ok : DevOK cfg d
  anodup : (akeys d.anaTr).Nodup

/-- the part of the state the invariant's tracker clauses look at -/
def proj (d : Dev) := (d.noteTr, d.anaTr, d.counter, d.keyTr)

@[simp] theorem proj_actTr (d : Dev) (l : List Action) : proj { d with actTr := l } = proj d := rfl

theorem off_quiet (ch n : Nat) : quiet (noteOffMsg ch n) = true := by
  simp [quiet, noteOffMsg]

def Keeps (cfg : Config) (d : Dev) (r : Dev × List Out) : Prop :=
  ∀ snd, MInv cfg d snd → MInv cfg r.1 (sounding snd r.2)

theorem minv_seq {cfg : Config} : Seq (Keeps cfg) :=
  ⟨fun _ _ h => h, fun h1 h2 snd h => by rw [sounding_append]; exact h2 _ (h1 _ h)⟩

theorem keeps_of_proj {cfg : Config} {d : Dev} {r : Dev × List Out} (hp : proj r.1 = proj d)
    (hok : DevOK cfg d → DevOK cfg r.1) (hq : DevOK cfg d → r.2.all quiet = true) : Keeps cfg d r := fun snd h => by
  simp only [proj, Prod.mk.injEq] at hp
  obtain ⟨hn, ha, hc, hk⟩ := hp
  have ht := h.toTracks.keeps hn hc ((hok h.ok).cfg_eq.trans h.ok.cfg_eq.symm) (fun k _ hkt => hk ▸ hkt)
    (sounding_quiet_subset (hq h.ok))
  exact ⟨ha ▸ ht, hok h.ok, ha ▸ h.anodup⟩

/-- a change of a field neither the invariant nor `DevOK` looks at (for a record update both hold by computation) -/
theorem keeps_same {cfg : Config} {d d' : Dev} (hp : proj d' = proj d) (hok : DevOK cfg d → DevOK cfg d') :
    Keeps cfg d (d', []) :=
  keeps_of_proj (r := (d', [])) hp hok fun _ => rfl

theorem checkDouble_minv {cfg : Config} (d : Dev) : Keeps cfg d (d.checkDouble.1, []) :=
  keeps_of_proj (by rw [checkDouble_writes]; rfl) checkDouble_ok fun _ => rfl

theorem invokePress_minv {cfg : Config} (d : Dev) (a : Action) : Keeps cfg d (d.invokePress a) :=
  keeps_of_proj (by rw [invokePress_writes]; rfl) (fun h => (invokePress_good h a).1) fun h => by
    rw [invokePress_outs]; split
    · exact panicOuts_quiet _ h.ch
    · rfl

theorem invokeRelease_minv {cfg : Config} (d : Dev) (a : Action) : Keeps cfg d (d.invokeRelease a, []) :=
  keeps_of_proj (by rw [invokeRelease_writes]; rfl) (fun h => invokeRelease_ok h a) fun _ => rfl

theorem actTr_minv {cfg : Config} (d : Dev) (l : List Action) : Keeps cfg d ({ d with actTr := l }, []) :=
  keeps_same rfl id

theorem noteOff_minv {cfg : Config} (d : Dev) (code : Code) : Keeps cfg d (d.noteOff code) := by
  intro snd h
  have hgood := (noteOff_good h.ok code).1
  revert hgood
  refine noteOff_cases (P := fun r => DevOK cfg r.1 → MInv cfg r.1 (sounding snd r.2))
    h.ok.noteTr.ch code (fun _ _ => h) ?_
  intro n ch hl hch hgood
  exact ⟨h.toTracks.released hl hch, hgood, h.anodup⟩

theorem analogNoteOn_minv {cfg : Config} (d : Dev) (id : Code × Bool) (note off : Nat)
    (hfresh : alookup id d.anaTr = none) : Keeps cfg d (d.analogNoteOn id note off) := by
  intro snd h
  have hgood := (analogNoteOn_good h.ok id note off).1
  revert hgood
  rw [AxisKeyLemmas.analogNoteOn_eq]
  refine iteInduction (motive := fun r : Dev × List Out => DevOK cfg r.1 → MInv cfg r.1 (sounding snd r.2))
    (fun _ _ => h) fun _ hgood => ?_
  have hch : chanOf d.channel off < 16 := chanOf_lt _ _
  refine ⟨⟨h.nodup, h.cnt, h.keys, ?_⟩, hgood, nodup_akeys_ainsert h.anodup⟩
  intro p hp
  simp only [sounding, List.foldl, noteEvent_on hch, recv_on hch (by decide : 0 < 64)] at hp
  rcases mem_sinsert.mp hp with e | e
  · exact (h.snd p e).imp_right (Held.ainsert (alookup_eq_none.mp hfresh) _)
  · exact e ▸ Or.inr held_ainsert_self

theorem analogNoteOff_minv {cfg : Config} (d : Dev) (id : Code × Bool) : Keeps cfg d (d.analogNoteOff id) := by
  intro snd h
  have hgood := (analogNoteOff_good h.ok id).1
  rw [AxisKeyLemmas.analogNoteOff_eq] at hgood ⊢
  refine ⟨⟨h.nodup, h.cnt, h.keys, ?_⟩, hgood, nodup_akeys_aerase h.anodup⟩
  cases hl : alookup id d.anaTr with
  | none => rw [aerase_of_alookup_none hl]; exact h.snd
  | some q =>
    obtain ⟨n, ch⟩ := q
    have hch : ch < 16 := (TrOK_lookup h.ok.anaTr hl).2
    intro p hp
    simp only [AxisKeyLemmas.offOuts, sounding, List.foldl, noteEvent_off hch, recv_off hch] at hp
    exact (h.snd p (mem_serase.mp hp).1).imp_right (Held.aerase h.anodup hl (mem_serase.mp hp).2)

/-- an event is admissible in a state: key values are 0 / 1 / 2 (what evdev delivers) and a key is pressed only while up -/
def EvOK (d : Dev) : Ev → Prop
  | .key _ code val => (val = 0 ∨ val = 1 ∨ val = 2) ∧ (val = 1 → code ∉ d.keyTr)
  | _ => True

theorem handleKey_minv {cfg : Config} {d : Dev} {snd : List (Nat × Nat)} (h : MInv cfg d snd) (sub : Sub) (code : Code)
    (val : Int) (hv : val = 0 ∨ val = 1) (hpress : val = 1 → code ∉ d.keyTr) :
    MInv cfg (d.handleKey sub code val).1 (sounding snd (d.handleKey sub code val).2) := by
  obtain ⟨m, hm⟩ := h.ok.curMap
  have ht := handleKey_tracks h.toTracks h.ok.ch h.ok.noteTr.ch h.ok.vel_pos hm sub code hv hpress
  have hana : (d.handleKey sub code val).1.anaTr = d.anaTr := by rw [handleKey_writes]
  exact ⟨hana ▸ ht, (handleKey_good h.ok sub code val).1, hana ▸ h.anodup⟩

theorem handleAbs_minv {cfg : Config} (d : Dev) (sub : Sub) (node : String) (code : Code) (raw : Int) :
    Keeps cfg d (d.handleAbs sub node code raw) := by
  have emit : ∀ {d : Dev} {o : Out}, quiet o = true → Keeps cfg d (d, [o]) := fun ho =>
    keeps_of_proj rfl id fun _ => by simp [ho]
  exact handleAbs_rule minv_seq (fun d => keeps_of_proj rfl id fun _ => rfl) analogNoteOff_minv
    (fun d l => keeps_same rfl id)
    (absCC_rule minv_seq (fun d c fn v hc => emit (cc_quiet c fn v hc)) fun d c b => keeps_same rfl id)
    (fun d c v hc => emit (pb_quiet c v hc)) (absKey_rule minv_seq analogNoteOff_minv analogNoteOn_minv)
    (absAction_rule minv_seq checkDouble_minv invokePress_minv invokeRelease_minv actTr_minv) d sub node code raw

theorem step_minv {cfg : Config} {d : Dev} {snd : List (Nat × Nat)} (h : MInv cfg d snd)
    (e : Ev) (he : EvOK d e) : MInv cfg (d.step e).1 (sounding snd (d.step e).2) := by
  refine step_cases (P := fun r => MInv cfg r.1 (sounding snd r.2)) d e (fun _ => h) (fun _ => h) (fun _ _ _ => h) ?_
    (fun s n c v _ => handleAbs_minv d s n c v snd h)
    (fun _ _ _ x _ => keeps_same (d := d) (d' := { d with ext := x }) rfl id snd h)
  intro s c v hev hv2
  subst hev
  exact handleKey_minv h s c v (by have := he.1; omega) he.2

/-- a history is admissible from a state: key values 0/1/2 and every press happens while the key tracker does not hold the key -/
def OKHistory (d : Dev) : List Ev → Prop
  | [] => True
  | e :: r => EvOK d e ∧ OKHistory (d.step e).1 r

theorem run_minv {cfg : Config} : ∀ (evs : List Ev) (d : Dev) (snd : List (Nat × Nat)),
    MInv cfg d snd → OKHistory d evs → MInv cfg (d.runFlat evs).1 (sounding snd (d.runFlat evs).2) := by
  intro evs
  induction evs with
  | nil => intro d snd h _; exact h
  | cons e r ih =>
    intro d snd h hok
    have h2 := ih _ _ (step_minv h e hok.1) hok.2
    rw [← sounding_append] at h2
    exact h2

theorem init_minv {cfg : Config} (hacc : Accepted cfg = true) : MInv cfg (Dev.init cfg) [] :=
  ⟨⟨by simp [Dev.init, akeys], by intro ch n; simp [Dev.init, Dev.count, alookup, holders],
    by intro k hk; simp [Dev.init, akeys] at hk, by intro p hp; cases hp⟩, C05_init cfg hacc, by simp [Dev.init, akeys]⟩

theorem foldl_erases {κ : Type} [DecidableEq κ] (f : Dev → κ → Dev × List Out) (tr : Dev → List (κ × (Nat × Nat)))
    (htr : ∀ d c, tr (f d c).1 = aerase c (tr d)) (l : List κ) : ∀ acc : Dev × List Out,
    tr (l.foldl (fun (acc : Dev × List Out) c => let (d', o) := f acc.1 c; (d', acc.2 ++ o)) acc).1 =
      l.foldl (fun t c => aerase c t) (tr acc.1) := by
  induction l with
  | nil => intro _; rfl
  | cons c r ih => intro acc; rw [List.foldl_cons, ih, List.foldl_cons]; exact congrArg (r.foldl _) (htr acc.1 c)

theorem cleanupWith_trackers (d : Dev) (order : List Code) (aorder : List (Code × Bool)) :
    (d.cleanupWith order aorder).1.noteTr = order.foldl (fun t c => aerase c t) d.noteTr ∧
    (d.cleanupWith order aorder).1.anaTr = aorder.foldl (fun t c => aerase c t) d.anaTr := by
  have k1 := foldl_erases Dev.noteOff (·.noteTr) noteOff_noteTr order (d, [])
  have k2 := foldl_rule (keeps_seq (·.anaTr)) Dev.noteOff (fun d c => by rw [noteOff_writes]) d order (d, []) rfl
  unfold Dev.cleanupWith
  generalize order.foldl (fun (acc : Dev × List Out) c => let (d', o) := acc.1.noteOff c; (d', acc.2 ++ o)) (d, []) = r1
    at k1 k2 ⊢
  have k3 := foldl_rule (keeps_seq (·.noteTr)) Dev.analogNoteOff (fun d c => by rw [AxisKeyLemmas.analogNoteOff_eq]) r1.1
    aorder (r1.1, []) rfl
  have k4 := foldl_erases Dev.analogNoteOff (·.anaTr) (fun d c => by rw [AxisKeyLemmas.analogNoteOff_eq]) aorder (r1.1, [])
  exact ⟨k3.trans k1, k4.trans (congrArg (aorder.foldl _) k2)⟩

/-- **disconnect**: after the clean-up, in whatever order it visits the two trackers, nothing is tracked and nothing sounds -/
theorem cleanupWith_silent {cfg : Config} {d : Dev} {snd : List (Nat × Nat)} (h : MInv cfg d snd) (order : List Code)
    (aorder : List (Code × Bool)) (h1 : ∀ k ∈ akeys d.noteTr, k ∈ order) (h2 : ∀ k ∈ akeys d.anaTr, k ∈ aorder) :
    sounding snd (d.cleanupWith order aorder).2 = [] ∧ (d.cleanupWith order aorder).1.noteTr = [] ∧
    (d.cleanupWith order aorder).1.anaTr = [] := by
  obtain ⟨hn, ha⟩ := cleanupWith_trackers d order aorder
  rw [foldl_aerase_nil _ _ h1] at hn
  rw [foldl_aerase_nil _ _ h2] at ha
  refine ⟨List.eq_nil_iff_forall_not_mem.mpr fun p hp => ?_, hn, ha⟩
  rcases (cleanupWith_rule minv_seq noteOff_minv analogNoteOff_minv d order aorder snd h).snd p hp with ⟨k, hk⟩ | ⟨i, hi⟩
  · rw [hn] at hk; cases hk
  · rw [ha] at hi; cases hi

theorem cleanup_silent {cfg : Config} {d : Dev} {snd : List (Nat × Nat)} (h : MInv cfg d snd) (hdead : d.dead = false) :
    sounding snd d.cleanup.2 = [] ∧ d.cleanup.1.noteTr = [] ∧ d.cleanup.1.anaTr = [] := by
  rw [cleanup_alive hdead]
  exact cleanupWith_silent h _ _ (fun _ hk => hk) (fun _ hk => hk)

end Hidi.Mixed
