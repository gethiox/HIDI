/-
  HidiProofs.LifeLemmas — mutual exclusion and termination for the life-cycle model `Hidi.Life`.
  Mutual exclusion has a reason: a step that adds a holder to a mutex finds it free (`step_holders`, read off the 26
  steps one by one), so the number of holders never exceeds one (`step_inv`).  That the finishing scheduler always has
  an enabled step that lowers the measure is a fact about 396 states with no shorter reason than the table itself: it
  is evaluated, once, by the kernel.
-/
import Hidi.Life
namespace Hidi.LifeLemmas
open Hidi Hidi.Life

theorem run_induction {P : St → Prop} (hstep : ∀ s x, P s → enabled s x = true → P (step s x)) :
    ∀ (xs : List Step) (s : St), P s → P (run s xs)
  | [], _, h => h
  | x :: r, s, h => by
    simp only [run]
    split
    · rename_i he; exact run_induction hstep r _ (hstep s x h he)
    · exact run_induction hstep r _ h

def holdersE (s : St) : Nat := (mainHoldsE s.main).toNat + (ledHoldsE s.led).toNat
def holdersX (s : St) : Nat := (mainHoldsX s.main).toNat + (ledHoldsX s.led).toNat + (midiHoldsX s.midi).toNat

theorem step_holders (s : St) (x : Step) (he : enabled s x = true) :
    (holdersE (step s x) ≤ holdersE s ∨ holdersE s = 0 ∧ holdersE (step s x) = 1) ∧
    (holdersX (step s x) ≤ holdersX s ∨ holdersX s = 0 ∧ holdersX (step s x) = 1) := by
  obtain ⟨m, l, i, c⟩ := s
  -- the six lock steps are enabled only with `freeE` / `freeX`, i.e. no holder, and make their goroutine the holder;
  -- every other step moves its goroutine to a program counter that holds no more than the one it is enabled at
  cases x
  case mainLockE => cases m <;> simp_all [enabled, freeE, step, holdersE, holdersX, mainHoldsE, mainHoldsX]
  case ledCheck =>
    simp only [enabled, decide_eq_true_eq] at he
    simp only [step, holdersE, holdersX, he]; split <;> simp [ledHoldsE, ledHoldsX]
  all_goals
    simp [enabled, freeE, freeX, mainHoldsE, mainHoldsX, ledHoldsE, ledHoldsX, midiHoldsX] at he
    simp [step, holdersE, holdersX, he, mainHoldsE, mainHoldsX, ledHoldsE, ledHoldsX, midiHoldsX]

/-- each mutex has at most one holder; `wg.Wait()` has returned only if both other goroutines have finished -/
def Inv (s : St) : Prop :=
  holdersE s ≤ 1 ∧ holdersX s ≤ 1 ∧ (s.main = .done → s.led = .done ∧ s.midi = .done)

instance (s : St) : Decidable (Inv s) := by unfold Inv; exact inferInstance

theorem step_inv (s : St) (x : Step) (h : Inv s) (he : enabled s x = true) : Inv (step s x) := by
  obtain ⟨hE, hX, hw⟩ := h
  have := step_holders s x he
  refine ⟨by omega, by omega, ?_⟩
  clear this hE hX
  obtain ⟨m, l, i, c⟩ := s
  cases x
  case mainWaitDone =>
    -- the one step that makes main `done` is enabled only when the other two are
    simp only [enabled, Bool.and_eq_true, decide_eq_true_eq] at he
    exact fun _ => ⟨he.1.2, he.2⟩
  -- the other steps of main do not lead to `done`; a step of the LED or MIDI goroutine is enabled only where that
  -- goroutine is not `done`, hence (`hw`) main is not either
  all_goals simp only [step] <;> (try split) <;> simp_all [enabled]

theorem inv_init : Inv {} := by decide

theorem run_inv (xs : List Step) : ∀ s, Inv s → Inv (run s xs) := run_induction step_inv xs

def mainPCs : List MainPC := [.recv, .wantE false, .wantE true, .inE false, .inE true, .inEX, .cancel, .wantEc, .inEc, .wait, .done]
def ledPCs : List LedPC := [.connect, .loopTop, .sleep, .wantE, .inE, .inEX, .inE2, .closing, .done]
def midiPCs : List MidiPC := [.sel, .wantX, .inX, .done]

instance (P : MainPC → Prop) [DecidablePred P] : Decidable (∀ m, P m) :=
  decidable_of_iff (∀ m ∈ mainPCs, P m)
    ⟨fun h m => h m (by cases m <;> first | decide | (rename_i p; cases p <;> decide)), fun h m _ => h m⟩
instance (P : LedPC → Prop) [DecidablePred P] : Decidable (∀ l, P l) :=
  decidable_of_iff (∀ l ∈ ledPCs, P l) ⟨fun h l => h l (by cases l <;> decide), fun h l _ => h l⟩
instance (P : MidiPC → Prop) [DecidablePred P] : Decidable (∀ i, P i) :=
  decidable_of_iff (∀ i ∈ midiPCs, P i) ⟨fun h i => h i (by cases i <;> decide), fun h i _ => h i⟩

/- The ranks count how far a goroutine is from `done` along its own program order once the context is cancelled (a
   wait for a mutex ranks above holding it, `wantE true` above `wantE false` because the panic path is longer).  The
   helper prefers main, then the LED goroutine, then the MIDI one, hence the weights; 973 = 100·9 + 10·7 + 3. -/
def mainRank : MainPC → Nat
  | .done => 0 | .wait => 1 | .inEc => 2 | .wantEc => 3 | .cancel => 4 | .recv => 5
  | .inE false => 6 | .inEX => 7 | .inE true => 8 | .wantE false => 7 | .wantE true => 9
def ledRank : LedPC → Nat
  | .done => 0 | .closing => 1 | .connect => 1 | .loopTop => 2 | .inE2 => 3 | .inEX => 4 | .inE => 5 | .wantE => 6 | .sleep => 7
def midiRank : MidiPC → Nat
  | .done => 0 | .sel => 1 | .inX => 2 | .wantX => 3

def measure (s : St) : Nat := 100 * mainRank s.main + 10 * ledRank s.led + midiRank s.midi

theorem helper_ok (s : St) (hi : Inv s) (hc : s.closed = true) (hd : allDone s = false) :
    enabled s (helper s) = true ∧ measure (step s (helper s)) < measure s := by
  obtain ⟨m, l, i, c⟩ := s
  simp only at hc; subst hc
  revert m l i
  -- plain `decide` would evaluate the 396 cases in the elaborator first, at several times the kernel's cost
  decide +kernel

theorem measure_le (s : St) : measure s ≤ 973 := by
  have h1 : ∀ m, mainRank m ≤ 9 := by decide
  have h2 : ∀ l, ledRank l ≤ 7 := by decide
  have h3 : ∀ i, midiRank i ≤ 3 := by decide
  have := h1 s.main; have := h2 s.led; have := h3 s.midi
  simp only [measure]; omega

/-- every step the finishing schedule takes is a step of one of the three goroutines (no further input, no MIDI message
    is needed), and it is enabled when taken -/
def GoodSchedule : St → List Step → Prop
  | _, [] => True
  | s, x :: r => enabled s x = true ∧ x ≠ .unplug ∧ x ≠ .midiArrives ∧ (∀ p, x ≠ .mainTake p) ∧ GoodSchedule (step s x) r

theorem helper_internal (s : St) : helper s ≠ .unplug ∧ helper s ≠ .midiArrives ∧ ∀ p, helper s ≠ .mainTake p := by
  unfold helper
  split
  · unfold mainNext; split <;> simp
  · split
    · unfold ledNext; split <;> simp
    · unfold midiNext; split <;> simp

theorem step_closed (s : St) (x : Step) (h : s.closed = true) : (step s x).closed = true := by
  cases x <;> simp only [step] <;> (try split) <;> exact h

/-- **termination**: from a state satisfying `Inv` with the input ended, at most `measure s` helper steps (a `GoodSchedule`)
    finish all three goroutines -/
theorem driveSteps_spec : ∀ (n : Nat) (s : St), Inv s → s.closed = true → measure s < n →
    (driveSteps n s).length ≤ measure s ∧ GoodSchedule s (driveSteps n s) ∧ allDone (run s (driveSteps n s)) = true
  | 0, _, _, _, hn => by omega
  | n + 1, s, hi, hc, hn => by
    simp only [driveSteps]
    split
    · rename_i hd; exact ⟨Nat.zero_le _, trivial, hd⟩
    · rename_i hd
      obtain ⟨he, hlt⟩ := helper_ok s hi hc (by simpa using hd)
      obtain ⟨h1, h2, h3⟩ := driveSteps_spec n _ (step_inv _ _ hi he) (step_closed _ _ hc) (by omega)
      exact ⟨by simp only [List.length_cons]; omega, ⟨he, (helper_internal s).1, (helper_internal s).2.1,
        (helper_internal s).2.2, h2⟩, by simpa only [run, he, if_true] using h3⟩

end Hidi.LifeLemmas
