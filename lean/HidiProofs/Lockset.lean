/-
  HidiProofs.Lockset — a generic lock-discipline theorem (C16).

  Threads (indexed by a name) run straight-line programmes of `acq m`, `rel m` and `access v` (read or write) over
  mutexes with Go semantics (non-reentrant, at most one holder).  An *access table* lists, per thread, which variable
  is accessed how and with which mutexes held.  If every pair of conflicting accesses (different threads, same
  variable, at least one write) has a common mutex in the table, then in no reachable state — for no schedule — are two
  conflicting accesses of programmes conforming to the table enabled at the same time.
-/
namespace Hidi.Lockset

inductive Op
  | acq (m : String)
  | rel (m : String)
  | access (v : String) (write : Bool)
  deriving DecidableEq, Repr

structure Th where
  prog : List Op
  held : List String

abbrev Sys := String → Th

abbrev Row := String × String × Bool × List String    -- thread, variable, write?, mutexes held
abbrev Table := List Row

def Disciplined (t : Table) : Bool :=
  t.all (fun a => t.all (fun b =>
    a.1 = b.1 || a.2.1 ≠ b.2.1 || !(a.2.2.1 || b.2.2.1) || a.2.2.2.any (fun m => b.2.2.2.contains m)))

/-- the list of held mutexes is read as a set: its order and duplicates do not matter -/
def Conforms (t : Table) (i : String) : List String → List Op → Prop
  | _, [] => True
  | h, .acq m :: r => m ∉ h ∧ Conforms t i (m :: h) r
  | h, .rel m :: r => Conforms t i (h.filter (· ≠ m)) r
  | h, .access v w :: r => (∃ hh, (i, v, w, hh) ∈ t ∧ ∀ m, m ∈ hh → m ∈ h) ∧ Conforms t i h r

def upd (s : Sys) (i : String) (t : Th) : Sys := fun k => if k = i then t else s k

inductive StepRel : Sys → Sys → Prop
  | acq (s : Sys) (i m : String) (rest : List Op) :
      (s i).prog = .acq m :: rest → (∀ j, m ∉ (s j).held) → StepRel s (upd s i ⟨rest, m :: (s i).held⟩)
  | rel (s : Sys) (i m : String) (rest : List Op) :
      (s i).prog = .rel m :: rest → StepRel s (upd s i ⟨rest, (s i).held.filter (· ≠ m)⟩)
  | access (s : Sys) (i v : String) (w : Bool) (rest : List Op) :
      (s i).prog = .access v w :: rest → StepRel s (upd s i ⟨rest, (s i).held⟩)

inductive Reach (init : Sys) : Sys → Prop
  | start : Reach init init
  | step {s s' : Sys} : Reach init s → StepRel s s' → Reach init s'

def Race (s : Sys) : Prop :=
  ∃ i j v w1 w2 r1 r2, i ≠ j ∧ (s i).prog = .access v w1 :: r1 ∧ (s j).prog = .access v w2 :: r2 ∧ (w1 = true ∨ w2 = true)

structure Inv (t : Table) (s : Sys) : Prop where
  conf : ∀ i, Conforms t i (s i).held (s i).prog
  excl : ∀ i j m, i ≠ j → m ∈ (s i).held → m ∉ (s j).held

theorem inv_upd {t : Table} {s : Sys} {i : String} {rest : List Op} {held : List String} (h : Inv t s)
    (hc : Conforms t i held rest) (hh : ∀ m ∈ held, m ∈ (s i).held ∨ ∀ j, m ∉ (s j).held) :
    Inv t (upd s i ⟨rest, held⟩) := by
  constructor
  · intro k
    unfold upd
    split
    · rename_i e; subst e; exact hc
    · exact h.conf k
  · intro a b m hab hm
    unfold upd at hm ⊢
    split at hm <;> split
    · rename_i ea eb; exact absurd (ea.trans eb.symm) hab
    · rename_i ea _; subst ea
      rcases hh m hm with e | e
      · exact h.excl a b m hab e
      · exact e b
    · rename_i _ eb; subst eb
      intro hm'
      rcases hh m hm' with e | e
      · exact h.excl a b m hab hm e
      · exact e a hm
    · exact h.excl a b m hab hm

theorem step_inv {t : Table} {s s' : Sys} (h : Inv t s) (hs : StepRel s s') : Inv t s' := by
  cases hs with
  | acq i m rest hp hfree =>
    have := h.conf i; rw [hp] at this
    exact inv_upd h this.2 fun x hx => (List.mem_cons.mp hx).elim (fun e => .inr (e ▸ hfree)) .inl
  | rel i m rest hp =>
    have := h.conf i; rw [hp] at this
    exact inv_upd h this fun x hx => .inl (List.mem_filter.mp hx).1
  | access i v w rest hp =>
    have := h.conf i; rw [hp] at this
    exact inv_upd h this.2 fun x hx => .inl hx

theorem reach_inv {t : Table} {init s : Sys} (h0 : Inv t init) (hr : Reach init s) : Inv t s := by
  induction hr with
  | start => exact h0
  | step _ hs ih => exact step_inv ih hs

/-- **lock discipline ⇒ no race, for every schedule** -/
theorem no_race (t : Table) (hd : Disciplined t = true) (init : Sys)
    (hstart : ∀ i, (init i).held = [] ∧ Conforms t i [] (init i).prog)
    (s : Sys) (hr : Reach init s) : ¬ Race s := by
  have h0 : Inv t init := ⟨fun i => by rw [(hstart i).1]; exact (hstart i).2, fun i j m _ hm => by rw [(hstart i).1] at hm; cases hm⟩
  have hi := reach_inv h0 hr
  rintro ⟨i, j, v, w1, w2, r1, r2, hij, hp1, hp2, hw⟩
  have c1 := hi.conf i
  have c2 := hi.conf j
  rw [hp1] at c1
  rw [hp2] at c2
  obtain ⟨⟨h1, hm1, hs1⟩, -⟩ := c1
  obtain ⟨⟨h2, hm2, hs2⟩, -⟩ := c2
  unfold Disciplined at hd
  have key := List.all_eq_true.mp (List.all_eq_true.mp hd _ hm1) _ hm2
  -- of the four disjuncts of the table check only the last is left: a common mutex
  have d1 : decide (i = j) = false := by simp [hij]
  have d3 : (!(w1 || w2)) = false := by rcases hw with hw | hw <;> simp [hw]
  simp only [ne_eq, d1, d3, Bool.false_or] at key
  obtain ⟨m, hm, hc⟩ := List.any_eq_true.mp key
  exact hi.excl i j m hij (hs1 m hm) (hs2 m (List.contains_iff_mem.mp hc))

end Hidi.Lockset
