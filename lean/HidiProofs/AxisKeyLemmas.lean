/-
  HidiProofs.AxisKeyLemmas — one equation per operation of the axis path (`Dev.analogNoteOn` … `Dev.absCC`): for the
  leaves the resulting state is a record update of the old one and the output an explicit list; `absKey_eq` and
  `absCC_eq` say which of `deflect` / `releaseAxis` / `bidirCC` runs.  The two directions of an emulated key pair and the
  two sides of a bidirectional controller are one case each, with the direction as a variable (`sideOn`, `deflect`,
  `near`).  The handler itself: `handleAbs_crash`, `handleAbs_miss` and, once the analog entry is found, the staged
  `BodiesTie.handleAbs_model`.
-/
import HidiProofs.Messages
namespace Hidi.AxisKeyLemmas
open Hidi Hidi.Spec

theorem recv_noteOff {ch : Nat} (h : ch < 16) (s : List (Nat × Nat)) (n : Nat) :
    recv s (noteEvent stNoteOff ch n 0) = serase (ch, n) s := by
  rw [noteEvent_off h, recv_off h]

theorem noteOff_ne_noteOn (ch n ch' n' v : Nat) (hv : v ≠ 0) :
    noteEvent stNoteOff ch n 0 ≠ noteEvent stNoteOn ch' n' v := by
  intro h
  simp only [noteEvent, Out.midi.injEq] at h
  exact hv h.2.2.symm

theorem pos_ne_neg (code : Code) : ((code, false) : Code × Bool) ≠ (code, true) := by simp
theorem neg_ne_pos (code : Code) : ((code, true) : Code × Bool) ≠ (code, false) := by simp
theorem other_ne (code : Code) (neg : Bool) : ((code, !neg) : Code × Bool) ≠ (code, neg) := by cases neg <;> simp

/-- the Note Off that releases a tracker entry -/
def offOuts : Option (Nat × Nat) → List Out
  | some (n, ch) => [noteEvent stNoteOff ch n 0]
  | none => []

theorem mem_offOuts {p : Option (Nat × Nat)} {o : Out} :
    o ∈ offOuts p ↔ ∃ n ch, p = some (n, ch) ∧ o = noteEvent stNoteOff ch n 0 := by
  rcases p with _ | ⟨n, ch⟩
  · simp [offOuts]
  · simp only [offOuts, List.mem_singleton, Option.some.injEq, Prod.mk.injEq]
    exact ⟨fun h => ⟨n, ch, ⟨rfl, rfl⟩, h⟩, fun ⟨_, _, ⟨rfl, rfl⟩, h⟩ => h⟩

theorem analogNoteOff_eq (d : Dev) (id : Code × Bool) :
    d.analogNoteOff id = ({ d with anaTr := aerase id d.anaTr }, offOuts (alookup id d.anaTr)) := by
  unfold Dev.analogNoteOff
  split
  · rename_i h; rw [h, aerase_of_alookup_none h]; rfl
  · rename_i h; rw [h]; rfl

theorem releaseAxis_eq (d : Dev) (code : Code) :
    d.releaseAxis code =
      ({ d with anaTr := aerase (code, true) (aerase (code, false) d.anaTr) },
       offOuts (alookup (code, false) d.anaTr) ++ offOuts (alookup (code, true) d.anaTr)) := by
  unfold Dev.releaseAxis
  simp only [analogNoteOff_eq, alookup_aerase_ne (neg_ne_pos code)]

theorem releaseAxis_writes (d : Dev) (code : Code) :
    (d.releaseAxis code).1 = { d with anaTr := (d.releaseAxis code).1.anaTr } := by
  rw [releaseAxis_eq]

theorem releaseAxis_lookup_self (d : Dev) (code : Code) (neg : Bool) :
    alookup (code, neg) (d.releaseAxis code).1.anaTr = none := by
  rw [releaseAxis_eq]
  cases neg
  · exact (alookup_aerase_ne (pos_ne_neg code)).trans alookup_aerase_self
  · exact alookup_aerase_self

theorem releaseAxis_lookup_ne (d : Dev) (code : Code) {id : Code × Bool} (h1 : id ≠ (code, false)) (h2 : id ≠ (code, true)) :
    alookup id (d.releaseAxis code).1.anaTr = alookup id d.anaTr := by
  rw [releaseAxis_eq]
  exact (alookup_aerase_ne h2).trans (alookup_aerase_ne h1)

theorem releaseAxis_out_mem (d : Dev) (code : Code) (o : Out) (h : o ∈ (d.releaseAxis code).2) :
    ∃ id ∈ [((code, false) : Code × Bool), (code, true)], ∃ n ch,
      alookup id d.anaTr = some (n, ch) ∧ o = noteEvent stNoteOff ch n 0 := by
  rw [releaseAxis_eq, List.mem_append, mem_offOuts, mem_offOuts] at h
  rcases h with h | h
  · exact ⟨_, by simp, h⟩
  · exact ⟨_, by simp, h⟩

theorem analogNoteOn_eq (d : Dev) (id : Code × Bool) (note off : Nat) :
    d.analogNoteOn id note off =
      if d.transposed note < 0 ∨ d.transposed note > 127 then (d, [])
      else ({ d with anaTr := ainsert id ((d.transposed note).toNat, chanOf d.channel off) d.anaTr },
            [noteEvent stNoteOn (chanOf d.channel off) (d.transposed note).toNat 64]) := rfl

theorem analogNoteOn_writes (d : Dev) (id : Code × Bool) (note off : Nat) :
    (d.analogNoteOn id note off).1 = { d with anaTr := (d.analogNoteOn id note off).1.anaTr } := by
  rw [analogNoteOn_eq]
  split <;> rfl

theorem analogNoteOn_lookup_ne (d : Dev) {id id' : Code × Bool} (h : id' ≠ id) (note off : Nat) :
    alookup id' (d.analogNoteOn id note off).1.anaTr = alookup id' d.anaTr := by
  rw [analogNoteOn_eq]
  split
  · rfl
  · simp [alookup_ainsert_ne h]

theorem analogNoteOn_in_range (d : Dev) (id : Code × Bool) (note off : Nat)
    (h0 : 0 ≤ d.transposed note) (h1 : d.transposed note ≤ 127) :
    alookup id (d.analogNoteOn id note off).1.anaTr = some ((d.transposed note).toNat, chanOf d.channel off) ∧
    (d.analogNoteOn id note off).2 = [noteEvent stNoteOn (chanOf d.channel off) (d.transposed note).toNat 64] := by
  rw [analogNoteOn_eq]
  have : ¬ (d.transposed note < 0 ∨ d.transposed note > 127) := by omega
  simp [this, alookup_ainsert_self]

theorem analogNoteOn_out_of_range (d : Dev) (id : Code × Bool) (note off : Nat)
    (h : d.transposed note < 0 ∨ 127 < d.transposed note) :
    d.analogNoteOn id note off = (d, []) := by
  rw [analogNoteOn_eq]
  have : d.transposed note < 0 ∨ d.transposed note > 127 := h
  simp [this]

theorem analogNoteOn_out_mem (d : Dev) (id : Code × Bool) (note off : Nat) (o : Out)
    (h : o ∈ (d.analogNoteOn id note off).2) : ∃ ch n, ch < 16 ∧ n ≤ 127 ∧ o = noteEvent stNoteOn ch n 64 := by
  rw [analogNoteOn_eq] at h
  split at h
  · simp at h
  · rename_i hr
    refine ⟨chanOf d.channel off, (d.transposed note).toNat, chanOf_lt _ _, by omega, by simpa using h⟩

theorem analogNoteOn_lookup_some (d : Dev) (id id' : Code × Bool) (note off : Nat) (n ch : Nat)
    (h : alookup id' (d.analogNoteOn id note off).1.anaTr = some (n, ch)) :
    alookup id' d.anaTr = some (n, ch) ∨ (n ≤ 127 ∧ ch < 16) := by
  rw [analogNoteOn_eq] at h
  split at h
  · exact Or.inl h
  · rename_i hr
    by_cases hk : id' = id
    · subst hk
      simp only [alookup_ainsert_self, Option.some.injEq, Prod.mk.injEq] at h
      right
      refine ⟨?_, h.2 ▸ chanOf_lt _ _⟩
      omega
    · simp only [alookup_ainsert_ne hk] at h
      exact Or.inl h

/-- first half of a deflection to side `neg`: switch that side's key on unless it is tracked already
    (or the side is the negative one of a unidirectional entry) -/
def sideOn (d : Dev) (a : Analog) (code : Code) (neg : Bool) : Dev × List Out :=
  if (neg = true → a.bidir = true) ∧ (alookup (code, neg) d.anaTr).isNone then
    d.analogNoteOn (code, neg) (if neg then a.noteNeg else a.note) (if neg then a.chOffNeg else a.chOff)
  else (d, [])

/-- a deflection to side `neg`: that side on, then the other side off -/
def deflect (d : Dev) (a : Analog) (code : Code) (neg : Bool) : Dev × List Out :=
  ((sideOn d a code neg).1.analogNoteOff (code, !neg) |>.1,
   (sideOn d a code neg).2 ++ ((sideOn d a code neg).1.analogNoteOff (code, !neg)).2)

theorem absKey_eq (d : Dev) (a : Analog) (code : Code) (canNeg : Bool) (v0 : Rat) :
    d.absKey a code canNeg v0 =
      (let v := if canNeg then v0 else fsub (fmul v0 2) 1
       if v ≤ -1/2 then deflect d a code true
       else if -c49 < v ∧ v < c49 then d.releaseAxis code
       else if 1/2 ≤ v then deflect d a code false
       else (d, [])) := by
  unfold Dev.absKey deflect sideOn
  simp only [Bool.not_true, Bool.not_false, if_true, Bool.false_eq_true, if_false, forall_const, false_implies,
    true_and]
  rfl

theorem absKey_cases {P : Dev × List Out → Prop} (d : Dev) (a : Analog) (code : Code) (canNeg : Bool) (v0 : Rat)
    (hdef : ∀ neg, P (deflect d a code neg)) (hrel : P (d.releaseAxis code)) (hnil : P (d, [])) :
    P (d.absKey a code canNeg v0) := by
  rw [absKey_eq]
  generalize (if canNeg = true then v0 else fsub (fmul v0 2) 1) = v
  simp only
  split
  · exact hdef _
  split
  · exact hrel
  split
  · exact hdef _
  · exact hnil

theorem sideOn_writes (d : Dev) (a : Analog) (code : Code) (neg : Bool) :
    (sideOn d a code neg).1 = { d with anaTr := (sideOn d a code neg).1.anaTr } := by
  unfold sideOn; split
  · exact analogNoteOn_writes _ _ _ _
  · rfl

theorem sideOn_lookup_ne (d : Dev) (a : Analog) (code : Code) (neg : Bool) {id : Code × Bool} (h : id ≠ (code, neg)) :
    alookup id (sideOn d a code neg).1.anaTr = alookup id d.anaTr := by
  unfold sideOn; split
  · exact analogNoteOn_lookup_ne d h _ _
  · rfl

theorem sideOn_out_mem (d : Dev) (a : Analog) (code : Code) (neg : Bool) (o : Out) (h : o ∈ (sideOn d a code neg).2) :
    ∃ ch n, ch < 16 ∧ n ≤ 127 ∧ o = noteEvent stNoteOn ch n 64 := by
  unfold sideOn at h; split at h
  · exact analogNoteOn_out_mem _ _ _ _ _ h
  · simp at h

theorem sideOn_tracked (d : Dev) (a : Analog) (code : Code) (neg : Bool) (p : Nat × Nat)
    (h : alookup (code, neg) d.anaTr = some p) : sideOn d a code neg = (d, []) := by
  unfold sideOn; simp [h]

theorem sideOn_unidir (d : Dev) (a : Analog) (code : Code) (h : a.bidir = false) : sideOn d a code true = (d, []) := by
  unfold sideOn; simp [h]

theorem sideOn_fresh (d : Dev) (a : Analog) (code : Code) (neg : Bool) (hb : neg = true → a.bidir = true)
    (h : alookup (code, neg) d.anaTr = none) :
    sideOn d a code neg =
      d.analogNoteOn (code, neg) (if neg then a.noteNeg else a.note) (if neg then a.chOffNeg else a.chOff) := by
  unfold sideOn; rw [if_pos ⟨hb, by rw [h]; rfl⟩]

theorem deflect_eq (d : Dev) (a : Analog) (code : Code) (neg : Bool) :
    deflect d a code neg =
      ({ d with anaTr := aerase (code, !neg) (sideOn d a code neg).1.anaTr },
       (sideOn d a code neg).2 ++ offOuts (alookup (code, !neg) d.anaTr)) := by
  unfold deflect
  rw [analogNoteOff_eq, sideOn_lookup_ne d a code neg (other_ne code neg)]
  conv => lhs; rw [sideOn_writes]

/-- what `ccByte` is applied to in `Dev.absCC`, by mode: a bidirectional controller sends the distance from rest -/
def ccArg (bidir canNeg : Bool) (v : Rat) : Rat :=
  if canNeg then (if bidir then rabs v else fdiv (fadd v 1) 2) else (if bidir then rabs (fsub (fmul v 2) 1) else v)

theorem absCC_eq (d : Dev) (a : Analog) (canNeg : Bool) (v : Rat) :
    d.absCC a canNeg v =
      if a.bidir then d.bidirCC a (if canNeg then decide (v < 0) else decide (v < 1/2)) (ccArg true canNeg v)
      else (d, [ccEvent (chanOf d.channel a.chOff) a.cc (ccByte (ccArg false canNeg v))]) := by
  cases canNeg <;> simp only [Dev.absCC, ccArg, if_true, Bool.false_eq_true, if_false]

/-- (channel, controller) of the side a bidirectional controller is deflected to -/
def near (a : Analog) (ch : Nat) (neg : Bool) : Nat × Nat :=
  if neg then (chanOf ch a.chOffNeg, a.ccNeg) else (chanOf ch a.chOff, a.cc)

theorem near_lt (a : Analog) (ch : Nat) (neg : Bool) : (near a ch neg).1 < 16 := by
  unfold near; split <;> exact chanOf_lt _ _

/-- the side deflected to gets the value; the other one an explicit 0 unless it is marked zeroed -/
theorem bidirCC_eq (d : Dev) (a : Analog) (neg : Bool) (adj : Rat) :
    d.bidirCC a neg adj =
      if (near a d.channel (!neg)).2 ∈ d.ccZeroed then
        (d.setZeroed (near a d.channel neg).2 false,
         [ccEvent (near a d.channel neg).1 (near a d.channel neg).2 (ccByte adj)])
      else
        ((d.setZeroed (near a d.channel (!neg)).2 true).setZeroed (near a d.channel neg).2 false,
         [ccEvent (near a d.channel neg).1 (near a d.channel neg).2 (ccByte adj),
          ccEvent (near a d.channel (!neg)).1 (near a d.channel (!neg)).2 0]) := by
  unfold Dev.bidirCC near
  cases neg <;> simp only [Bool.not_true, Bool.not_false, if_true, Bool.false_eq_true, if_false] <;> split <;> rfl

theorem bidirCC_writes (d : Dev) (a : Analog) (neg : Bool) (adj : Rat) :
    (d.bidirCC a neg adj).1 = { d with ccZeroed := (d.bidirCC a neg adj).1.ccZeroed } := by
  rw [bidirCC_eq]; split <;> rfl

theorem absCC_writes (d : Dev) (a : Analog) (canNeg : Bool) (v : Rat) :
    (d.absCC a canNeg v).1 = { d with ccZeroed := (d.absCC a canNeg v).1.ccZeroed } := by
  rw [absCC_eq]; split
  · exact bidirCC_writes _ _ _ _
  · rfl

theorem handleAbs_crash {d : Dev} (hm : d.curMap = none) (sub : Sub) (node : String) (code : Code) (raw : Int) :
    d.handleAbs sub node code raw = ({ d with dead := true }, [.panic]) := by
  unfold Dev.handleAbs; rw [hm]

theorem handleAbs_miss {d : Dev} {m : Mapping} (hm : d.curMap = some m) {sub : Sub} {code : Code}
    (ha : alookup (sub, code) m.analog = none) (node : String) (raw : Int) :
    d.handleAbs sub node code raw = d.releaseAxis code := by
  unfold Dev.handleAbs; rw [hm]; dsimp only; rw [ha]

end Hidi.AxisKeyLemmas

/-! `handleABSEvent` once the analog entry is found, in the stages in which the code tie (`BodiesAbs.lean`, hence the namespace)
    and the proofs about axis events (`Handlers.handleAbs_rule`, `C05.handleAbs_good`, `C07_learning_gate`) take it apart -/
namespace Hidi.BodiesTie
open Hidi

/-- what the model does with the shaped, flipped value -/
def kindDispatch (d : Dev) (a : Analog) (code : Code) (canNeg : Bool) (v : Rat) : Dev × List Out :=
  match a.kind with
  | .cc => d.absCC a canNeg v
  | .pitchBend => (d, [pitchBendEvent (chanOf d.channel a.chOff) (if canNeg then v else fsub (fmul v 2) 1)])
  | .key => d.absKey a code canNeg v
  | .action => d.absAction a canNeg v

/-- the model from the shaped value `w` on: duplicate suppression, flip, the CC-learning gate, dispatch -/
def tailW (d : Dev) (a : Analog) (sub : Sub) (code : Code) (canNeg : Bool) (w : Rat) : Dev × List Out :=
  let last := (alookup (sub, code) d.lastAna).getD 0
  if last = w then (d, []) else
  let d := { d with lastAna := ainsert (sub, code) w d.lastAna }
  let v := flipVal canNeg a.flip w
  if d.learning ∧ ¬ (v < -1/2 ∨ 1/2 < v) then (d, []) else kindDispatch d a code canNeg v

/-- the model after the analog entry `a` has been found and the stale key emulation released (the `pre` of
    `Dev.handleAbs`, by then in `o`) -/
def tailA (d : Dev) (m : Mapping) (a : Analog) (sub : Sub) (node : String) (code : Code) (raw : Int) : Option (Dev × List Out) :=
  let (mn, mx) := (alookup (node, code) d.cfg.axes).getD (0, 0)
  let canNeg := decide (mn < 0) || a.dzCenter
  match m.deadzone sub code with
  | none => none
  | some dz => some (tailW d a sub code canNeg (shapeRaw mn mx a.dzCenter dz raw))

theorem handleAbs_model (d : Dev) (m : Mapping) (a : Analog) (sub : Sub) (node : String) (code : Code) (raw : Int)
    (hmap : d.cfg.maps[d.mapping]? = some m) (ha : alookup (sub, code) m.analog = some a) :
    d.handleAbs sub node code raw =
      (let r := if a.kind = .key then (d, []) else d.releaseAxis code
       match tailA r.1 m a sub node code raw with
       | none => ({ r.1 with dead := true }, r.2 ++ [.panic])
       | some q => (q.1, r.2 ++ q.2)) := by
  unfold Dev.handleAbs Dev.curMap tailA tailW kindDispatch
  simp only [hmap, ha]
  generalize (if a.kind = .key then (d, []) else d.releaseAxis code) = r
  cases m.deadzone sub code with
  | none => rfl
  | some dz =>
    simp only [apply_ite (fun q : Dev × List Out => (q.1, r.2 ++ q.2)), List.append_nil]
    rfl

end Hidi.BodiesTie
