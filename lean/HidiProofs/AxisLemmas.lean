/-
  The axis transfer function `shapeRaw` of `Hidi/Engine.lean` is split into three stages — `normRaw` (normalise),
  `centre` (optional re-centring), `dzCut` (deadzone cut and rescale).  Each is an exact stage (`normI`, `centreI`,
  `hI` over `1 - dz`, the stages of `Spec.idealShape`) with every operation rounded; range, monotonicity and the end
  values of the binary64 stage are those of the exact one, carried through `rnd53` (monotone, exact at the bounds).
-/
import Hidi.Engine
import Hidi.Spec
import HidiProofs.FloatLemmas

namespace Hidi.AxisLemmas
open Hidi Hidi.Spec Hidi.FloatLemmas

theorem rnd53_zero' : rnd53 0 = 0 := rnd53_zero

theorem axisOK_iff {mn mx : Int} {dzc : Bool} {dz : Rat} {raw : Int} :
    axisOK mn mx dzc dz raw = true ↔
      mn ≤ 0 ∧ 0 < mx ∧ mn ≤ raw ∧ raw ≤ mx ∧ (dzc = true → mn = 0) ∧ 0 ≤ dz ∧ dz < 1 := by
  cases dzc <;> simp [axisOK]

def normRaw (mn mx raw : Int) : Rat :=
  if raw < 0 then fdiv (raw : Rat) (rabs (mn : Rat)) else fdiv (raw : Rat) (rabs (mx : Rat))

def centre (dzc : Bool) (v0 : Rat) : Rat := if dzc then fsub (fmul v0 2) 1 else v0

def dzCut (dz v1 : Rat) : Rat :=
  if v1 < 0 then
    if -dz < v1 then 0 else fdiv (fadd v1 dz) (fsub 1 dz)
  else
    if v1 < dz then 0 else fdiv (fsub v1 dz) (fsub 1 dz)

theorem shapeRaw_eq (mn mx : Int) (dzc : Bool) (dz : Rat) (raw : Int) :
    shapeRaw mn mx dzc dz raw = dzCut dz (centre dzc (normRaw mn mx raw)) := rfl

def normI (mn mx raw : Int) : ℚ :=
  if raw < 0 then (raw : ℚ) / rabs (mn : ℚ) else (raw : ℚ) / rabs (mx : ℚ)
/-- `centre` rounds twice, so it is not `rnd53` of this; the two are compared by `AxisAccuracy.centre_close`, `pre_exact` -/
def centreI (dzc : Bool) (v : ℚ) : ℚ := if dzc then v * 2 - 1 else v
def hI (dz v : ℚ) : ℚ := if v < 0 then (if -dz < v then 0 else v + dz) else (if v < dz then 0 else v - dz)

theorem normRaw_eq (mn mx raw : Int) : normRaw mn mx raw = rnd53 (normI mn mx raw) := by
  unfold normRaw normI fdiv; split_ifs <;> rfl

theorem dzCut_eq (dz V : ℚ) : dzCut dz V = fdiv (rnd53 (hI dz V)) (fsub 1 dz) := by
  unfold dzCut hI fdiv fadd fsub
  split_ifs <;> simp [rnd53_zero]

theorem normI_frac {mn mx : Int} {dzc : Bool} {dz : ℚ} {raw : Int} (h : axisOK mn mx dzc dz raw = true) :
    ∃ D : ℤ, 0 < D ∧ (D = mx ∨ D = -mn) ∧ |raw| ≤ D ∧ normI mn mx raw = raw / D := by
  obtain ⟨_, h2, h3, h4, _, _, _⟩ := axisOK_iff.mp h
  unfold normI
  split_ifs with hr
  · refine ⟨-mn, by omega, Or.inr rfl, by rw [abs_le]; omega, ?_⟩
    have : (mn : ℚ) < 0 := by exact_mod_cast (show mn < 0 by omega)
    rw [rabs_eq, abs_of_neg this]; push_cast; rfl
  · refine ⟨mx, h2, Or.inl rfl, by rw [abs_le]; omega, ?_⟩
    have : (0 : ℚ) < mx := by exact_mod_cast h2
    rw [rabs_eq, abs_of_pos this]

theorem abs_div_le_one {t s : ℚ} (hs : 0 < s) (ht : |t| ≤ s) : |t / s| ≤ 1 := by
  rw [abs_div, abs_of_pos hs, div_le_one hs]; exact ht

theorem abs_frac_le_one {j D : ℤ} (hD : 0 < D) (hj : |j| ≤ D) : |(j : ℚ) / D| ≤ 1 :=
  abs_div_le_one (by exact_mod_cast hD) (by exact_mod_cast hj)

theorem normI_range {mn mx : Int} {dzc : Bool} {dz : ℚ} {raw : Int} (h : axisOK mn mx dzc dz raw = true) :
    |normI mn mx raw| ≤ 1 ∧ (0 ≤ raw → 0 ≤ normI mn mx raw) := by
  obtain ⟨D, hD, _, hr, e⟩ := normI_frac h
  rw [e]
  exact ⟨abs_frac_le_one hD hr, fun h0 => div_nonneg (by exact_mod_cast h0) (by exact_mod_cast hD.le)⟩

theorem normRaw_range {mn mx : Int} {dzc : Bool} {dz : Rat} {raw : Int}
    (h : axisOK mn mx dzc dz raw = true) :
    -1 ≤ normRaw mn mx raw ∧ normRaw mn mx raw ≤ 1 ∧ (0 ≤ raw → 0 ≤ normRaw mn mx raw) := by
  obtain ⟨a, b⟩ := normI_range h
  rw [normRaw_eq]
  obtain ⟨lo, hi⟩ := abs_le.mp (abs_rnd53_le rnd53_one a)
  exact ⟨lo, hi, fun h0 => rnd53_nonneg (b h0)⟩

theorem normRaw_zero (mn mx : Int) : normRaw mn mx 0 = 0 := by
  simp [normRaw, fdiv, rnd53_zero]

theorem normI_mono {mn mx r1 r2 : Int} (h : r1 ≤ r2) : normI mn mx r1 ≤ normI mn mx r2 := by
  have hq : (r1 : ℚ) ≤ r2 := by exact_mod_cast h
  have hx : (0 : ℚ) ≤ rabs mx := by rw [rabs_eq]; exact abs_nonneg _
  have hn : (0 : ℚ) ≤ rabs mn := by rw [rabs_eq]; exact abs_nonneg _
  unfold normI
  split_ifs with h1 h2 h2
  · exact div_le_div_of_nonneg_right hq hn
  · exact le_trans (div_nonpos_of_nonpos_of_nonneg (by exact_mod_cast h1.le) hn)
      (div_nonneg (by exact_mod_cast (not_lt.mp h2)) hx)
  · omega
  · exact div_le_div_of_nonneg_right hq hx

theorem normRaw_mono {mn mx r1 r2 : Int} (h : r1 ≤ r2) : normRaw mn mx r1 ≤ normRaw mn mx r2 := by
  rw [normRaw_eq, normRaw_eq]; exact rnd53_mono (normI_mono h)

/-- the re-centring of an axis that cannot go negative (`Dev.absKey`, `Dev.absCC`, pitch bend), as a `centre` -/
theorem centre_not (canNeg : Bool) (v : Rat) : centre (!canNeg) v = if canNeg then v else fsub (fmul v 2) 1 := by
  cases canNeg <;> rfl

theorem centre_one (dzc : Bool) : centre dzc 1 = 1 := by
  cases dzc
  · rfl
  · simp only [centre, if_true, fsub, fmul, one_mul, rnd53_two]; norm_num [rnd53_one]

theorem centre_true_zero : centre true 0 = -1 := by
  simp only [centre, if_true, fsub, fmul, zero_mul, rnd53_zero, zero_sub, rnd53_neg_one]

theorem centre_range {dzc : Bool} {v0 : Rat} (hlo : -1 ≤ v0) (hhi : v0 ≤ 1)
    (hc : dzc = true → 0 ≤ v0) : -1 ≤ centre dzc v0 ∧ centre dzc v0 ≤ 1 := by
  unfold centre
  split_ifs with hd
  · have a : 0 ≤ fmul v0 2 := rnd53_nonneg (by linarith [hc hd])
    have b : fmul v0 2 ≤ 2 := rnd53_le_of_le rnd53_two (by linarith)
    exact ⟨le_rnd53_of_le rnd53_neg_one (by linarith), rnd53_le_of_le rnd53_one (by linarith)⟩
  · exact ⟨hlo, hhi⟩

theorem centred_range {mn mx : Int} {dzc : Bool} {dz : Rat} {raw : Int} (h : axisOK mn mx dzc dz raw = true) :
    -1 ≤ centre dzc (normRaw mn mx raw) ∧ centre dzc (normRaw mn mx raw) ≤ 1 := by
  obtain ⟨_, _, h3, _, h5, _, _⟩ := axisOK_iff.mp h
  obtain ⟨a, b, c⟩ := normRaw_range h
  exact centre_range a b fun hd => c (by have := h5 hd; omega)

theorem centre_mono {dzc : Bool} {a b : Rat} (h : a ≤ b) : centre dzc a ≤ centre dzc b := by
  unfold centre
  split_ifs
  · exact rnd53_mono (by linarith [show fmul a 2 ≤ fmul b 2 from rnd53_mono (by linarith)])
  · exact h

theorem den_pos {dz : Rat} (h : dz < 1) : 0 < fsub 1 dz := rnd53_pos (by linarith)

theorem hI_sub {dz a b : ℚ} (h0 : 0 ≤ dz) (h : a ≤ b) : 0 ≤ hI dz b - hI dz a ∧ hI dz b - hI dz a ≤ b - a := by
  unfold hI
  split_ifs <;> constructor <;> linarith

theorem hI_zero {dz v : ℚ} (h : |v| ≤ dz) : hI dz v = 0 := by
  rw [abs_le] at h
  unfold hI
  split_ifs <;> linarith [h.1, h.2]

theorem hI_one {dz : ℚ} (h1 : dz < 1) : hI dz 1 = 1 - dz := by
  unfold hI; rw [if_neg (by norm_num), if_neg (by linarith)]

theorem hI_neg_one {dz : ℚ} (h1 : dz < 1) : hI dz (-1) = -(1 - dz) := by
  unfold hI; rw [if_pos (by norm_num), if_neg (by linarith)]; ring

theorem dzCut_mono {dz v w : Rat} (h0 : 0 ≤ dz) (h1 : dz < 1) (h : v ≤ w) : dzCut dz v ≤ dzCut dz w := by
  rw [dzCut_eq, dzCut_eq]
  exact rnd53_mono (div_le_div_of_nonneg_right (rnd53_mono (sub_nonneg.mp (hI_sub h0 h).1)) (den_pos h1).le)

theorem dzCut_one {dz : Rat} (h1 : dz < 1) : dzCut dz 1 = 1 := by
  rw [dzCut_eq, hI_one h1]; exact fdiv_self (den_pos h1).ne'

theorem dzCut_neg_one {dz : Rat} (h1 : dz < 1) : dzCut dz (-1) = -1 := by
  rw [dzCut_eq, hI_neg_one h1, rnd53_neg]
  unfold fdiv
  rw [neg_div, show rnd53 (1 - dz) / fsub 1 dz = 1 from div_self (den_pos h1).ne', rnd53_neg_one]

theorem dzCut_eq_zero {dz v : Rat} (hlo : -dz ≤ v) (hhi : v ≤ dz) : dzCut dz v = 0 := by
  rw [dzCut_eq, hI_zero (abs_le.mpr ⟨hlo, hhi⟩), rnd53_zero, fdiv, zero_div, rnd53_zero]

theorem dzCut_zero {dz : Rat} (h0 : 0 ≤ dz) : dzCut dz 0 = 0 := dzCut_eq_zero (by linarith) h0

theorem dzCut_le_one {dz v : Rat} (h0 : 0 ≤ dz) (h1 : dz < 1) (hv : v ≤ 1) : dzCut dz v ≤ 1 :=
  dzCut_one h1 ▸ dzCut_mono h0 h1 hv

theorem dzCut_ge_neg_one {dz v : Rat} (h0 : 0 ≤ dz) (h1 : dz < 1) (hv : -1 ≤ v) : -1 ≤ dzCut dz v :=
  dzCut_neg_one h1 ▸ dzCut_mono h0 h1 hv

theorem dzCut_nonneg {dz v : Rat} (h0 : 0 ≤ dz) (h1 : dz < 1) (hv : 0 ≤ v) : 0 ≤ dzCut dz v :=
  dzCut_zero h0 ▸ dzCut_mono h0 h1 hv

/-- inside a representable deadzone the result is exactly 0, also when the normalised value
    rounds onto the deadzone boundary -/
theorem dzCut_rest {dz q : Rat} (hrep : rnd53 dz = dz) (hlo : -dz < q) (hhi : q < dz) :
    dzCut dz (rnd53 q) = 0 :=
  dzCut_eq_zero (le_rnd53_of_le (by rw [rnd53_neg, hrep]) hlo.le) (rnd53_le_of_le hrep hhi.le)

theorem fmul127_range {a : Rat} (h0 : 0 ≤ a) (h1 : a ≤ 1) : 0 ≤ fmul 127 a ∧ fmul 127 a ≤ 127 :=
  ⟨rnd53_nonneg (by linarith), rnd53_le_of_le rnd53_127 (by linarith)⟩

theorem ftrunc127_range {a : Rat} (h0 : 0 ≤ a) (h1 : a ≤ 1) :
    0 ≤ ftrunc (fmul 127 a) ∧ ftrunc (fmul 127 a) ≤ 127 := by
  obtain ⟨l, u⟩ := fmul127_range h0 h1
  have a1 := ftrunc_mono l
  have a2 := ftrunc_mono u
  rw [ftrunc_zero] at a1
  rw [ftrunc_127] at a2
  exact ⟨a1, a2⟩

theorem rabs_le_one {v : Rat} (h0 : -1 ≤ v) (h1 : v ≤ 1) : 0 ≤ rabs v ∧ rabs v ≤ 1 := by
  rw [rabs_eq]; exact ⟨abs_nonneg v, abs_le.mpr ⟨h0, h1⟩⟩

theorem c49_pos : 0 < c49 := rnd53_pos (by norm_num)

theorem c49_le_half : c49 ≤ 1/2 := rnd53_le_of_le rnd53_half (by norm_num)

end Hidi.AxisLemmas
