/-
  HidiProofs.PressRelease — `NoteOn` / `NoteOff` (`device.go`) as equations: nothing, or `pressed` / `released` with
  `pressOuts` / `releaseOuts`; what a sounding press and a release do to `DInv` and to the three clauses of `Core`.  The
  clause "whatever a receiver hears is recorded for a key" (`Explained`) leaves a second explanation `X` open: `False` on
  key-only histories, "held by a deflected axis" on mixed ones.
-/
import HidiProofs.EngineSimStep
namespace Hidi.EngineSim
open Hidi Hidi.Spec

theorem curMap_some {d : Dev} (h : d.mapping < d.cfg.maps.length) : ∃ m, d.curMap = some m :=
  ⟨d.cfg.maps[d.mapping], List.getElem?_eq_getElem h⟩

theorem DInv.curMap {cfg : Config} {d : Dev} (h : DInv cfg d) : ∃ m, d.curMap = some m :=
  curMap_some (h.cfg_eq ▸ h.map)

theorem resolve_some {cfg : Config} {s : StObs} {vel : Nat} {sub : Sub} {code : Code}
    {n ch v : Nat} (h : resolve cfg s vel sub code = some (n, ch, v)) : n ≤ 127 ∧ ch < 16 ∧ v = vel := by
  unfold resolve at h
  split at h
  · cases h
  · split at h
    · cases h
    · simp only [] at h
      split at h
      · cases h
      · simp only [Option.some.injEq, Prod.mk.injEq] at h
        omega

def pressed (d : Dev) (code : Code) (n ch : Nat) : Dev :=
  { d with noteTr := ainsert code (n, ch) d.noteTr, counter := ainsert (ch, n) (d.count ch n + 1) d.counter }

/-- the collision switch of `NoteOn`; `held`: `activeNotesCounter[channel][note] > 0` -/
def pressOuts (mode : Collision) (held : Bool) (ch n v : Nat) : List Out :=
  match mode with
  | .off | .retrigger => [noteOnMsg ch n v]
  | .noRepeat => if held then [] else [noteOnMsg ch n v]
  | .interrupt => if held then [noteOffMsg ch n, noteOnMsg ch n v] else [noteOnMsg ch n v]

theorem noteOn_crash {d : Dev} (hm : d.curMap = none) (sub : Sub) (code : Code) :
    d.noteOn sub code = ({ d with dead := true }, [.panic]) := by
  unfold Dev.noteOn; rw [hm]

theorem noteOn_eq0 {d : Dev} {m : Mapping} (hm : d.curMap = some m) (sub : Sub) (code : Code) :
    d.noteOn sub code =
      match resolve d.cfg (StObs.ofDev d) d.velocity sub code with
      | none => (d, [])
      | some (n, ch, v) => (pressed d code n ch, pressOuts d.cfg.mode (decide (d.count ch n > 0)) ch n v) := by
  have hm2 : d.cfg.maps[d.mapping]? = some m := hm
  unfold Dev.noteOn resolve
  simp only [hm, StObs.ofDev, hm2]
  cases hk : alookup (sub, code) m.midi with
  | none => rfl
  | some k =>
    simp only [Dev.transposed]
    simp only [Int.mul_comm d.octave 12]
    by_cases hr : (k.note : Int) + 12 * d.octave + d.semitone < 0 ∨ (k.note : Int) + 12 * d.octave + d.semitone > 127
    · simp only [hr, if_true]
    · have hc : chanOf d.channel k.chOff = (d.channel + k.chOff) % 16 := Nat.mod_mod_of_dvd _ (by decide)
      have hlt : (d.channel + k.chOff) % 16 < 16 := Nat.mod_lt _ (by decide)
      simp only [hr, if_false, hc, Dev.setCount, pressed, Dev.count, noteEvent_on hlt, noteEvent_off hlt, pressOuts]
      congr 1
      cases d.cfg.mode <;> simp

theorem noteOn_eq {cfg : Config} {d : Dev} (hd : DInv cfg d) (sub : Sub) (code : Code) :
    d.noteOn sub code =
      match resolve cfg (StObs.ofDev d) (u8 cfg.vel) sub code with
      | none => (d, [])
      | some (n, ch, v) => (pressed d code n ch, pressOuts cfg.mode (decide (d.count ch n > 0)) ch n v) := by
  obtain ⟨m, hm⟩ := hd.curMap
  have := noteOn_eq0 hm sub code
  rwa [hd.cfg_eq, hd.vel] at this

theorem noteOn_cases {P : Dev × List Out → Prop} {d : Dev} {m : Mapping} (hm : d.curMap = some m) (sub : Sub) (code : Code)
    (nil : P (d, []))
    (on : ∀ n ch, n ≤ 127 → ch < 16 →
      P (pressed d code n ch, pressOuts d.cfg.mode (decide (d.count ch n > 0)) ch n d.velocity)) :
    P (d.noteOn sub code) := by
  rw [noteOn_eq0 hm]
  split
  · exact nil
  · rename_i n ch v hr
    obtain ⟨hn, hch, rfl⟩ := resolve_some hr
    exact on n ch hn hch

def released (d : Dev) (code : Code) (n ch : Nat) : Dev :=
  { d with noteTr := aerase code d.noteTr, counter := ainsert (ch, n) (d.count ch n - 1) d.counter }

def releaseOuts (mode : Collision) (last : Bool) (ch n : Nat) : List Out :=
  match mode with
  | .off => [noteOffMsg ch n]
  | _ => if last then [noteOffMsg ch n] else []

/-- `NoteOff` from any state, the message in the engine's own vocabulary -/
theorem noteOff_raw (d : Dev) (code : Code) :
    d.noteOff code =
      match alookup code d.noteTr with
      | none => (d, [])
      | some (n, ch) =>
        (released d code n ch, if d.cfg.mode = .off ∨ d.count ch n = 1 then [noteEvent stNoteOff ch n 0] else []) := by
  unfold Dev.noteOff
  cases alookup code d.noteTr with
  | none => rfl
  | some q =>
    simp only [Dev.setCount, released]
    congr 1
    cases d.cfg.mode <;> simp

theorem noteOff_eq0 {d : Dev} (hwf : ∀ p ∈ d.noteTr, p.2.2 < 16) (code : Code) :
    d.noteOff code =
      match alookup code d.noteTr with
      | none => (d, [])
      | some (n, ch) => (released d code n ch, releaseOuts d.cfg.mode (decide (d.count ch n = 1)) ch n) := by
  rw [noteOff_raw]
  cases hk : alookup code d.noteTr with
  | none => rfl
  | some q =>
    simp only [noteEvent_off (hwf _ (alookup_mem hk)), releaseOuts]
    congr 1
    cases d.cfg.mode <;> simp

theorem noteOff_eq {cfg : Config} {d : Dev} (hd : DInv cfg d) (code : Code) :
    d.noteOff code =
      match alookup code d.noteTr with
      | none => (d, [])
      | some (n, ch) => (released d code n ch, releaseOuts cfg.mode (decide (d.count ch n = 1)) ch n) := by
  have := noteOff_eq0 (fun p hp => (hd.wf p hp).2) code
  rwa [hd.cfg_eq] at this

theorem noteOff_cases {P : Dev × List Out → Prop} {d : Dev} (hwf : ∀ p ∈ d.noteTr, p.2.2 < 16) (code : Code)
    (nil : alookup code d.noteTr = none → P (d, []))
    (off : ∀ n ch, alookup code d.noteTr = some (n, ch) → ch < 16 →
      P (released d code n ch, releaseOuts d.cfg.mode (decide (d.count ch n = 1)) ch n)) :
    P (d.noteOff code) := by
  rw [noteOff_eq0 hwf]
  cases hk : alookup code d.noteTr with
  | none => exact nil hk
  | some q => exact off q.1 q.2 hk (hwf _ (alookup_mem hk))

section held
variable {κ : Type} [DecidableEq κ] {t : List (κ × (Nat × Nat))} {k : κ} {n ch : Nat} {p : Nat × Nat}

/-- the pair `p = (channel, note)` is recorded for some key of the tracker `t` -/
def Held (t : List (κ × (Nat × Nat))) (p : Nat × Nat) : Prop := ∃ k, (k, (p.2, p.1)) ∈ t

theorem Held.ainsert (hk : k ∉ akeys t) (q : Nat × Nat) (h : Held t p) : Held (ainsert k q t) p := by
  obtain ⟨k', hk'⟩ := h
  refine ⟨k', mem_ainsert.mpr (Or.inl ⟨hk', ?_⟩)⟩
  rintro rfl
  exact hk (mem_akeys_of_mem hk')

theorem held_ainsert_self : Held (ainsert k (n, ch) t) (ch, n) := ⟨k, mem_ainsert.mpr (Or.inr rfl)⟩

theorem Held.aerase (hn : (akeys t).Nodup) (hl : alookup k t = some (n, ch)) (hp : p ≠ (ch, n)) (h : Held t p) :
    Held (aerase k t) p := by
  obtain ⟨k', hk'⟩ := h
  refine ⟨k', mem_aerase.mpr ⟨hk', ?_⟩⟩
  rintro rfl
  have := alookup_of_mem_nodup hn hk'
  rw [hl] at this
  simp only [Option.some.injEq, Prod.mk.injEq] at this
  exact hp (by rw [← Prod.eta p, ← this.1, ← this.2])

end held

/-- everything a receiver hears is recorded for a key in the note tracker, or explained otherwise (`X`) -/
def Explained (X : Nat × Nat → Prop) (d : Dev) (snd : List (Nat × Nat)) : Prop := ∀ p ∈ snd, Held d.noteTr p ∨ X p

section
variable {X : Nat × Nat → Prop} {d : Dev} {snd : List (Nat × Nat)} {code : Code} {n ch : Nat}

theorem cnt_step {d' : Dev} {δ : Int} (h : ∀ ch n, d.count ch n = (holders d.noteTr (n, ch) : Int))
    (hc : d'.counter = ainsert (ch, n) (d.count ch n + δ) d.counter)
    (ht : ∀ p, (holders d'.noteTr p : Int) = holders d.noteTr p + if (n, ch) = p then δ else 0) (ch' n' : Nat) :
    d'.count ch' n' = (holders d'.noteTr (n', ch') : Int) := by
  unfold Dev.count at *
  rw [hc, ht, ← h]
  by_cases e : (ch', n') = (ch, n)
  · cases e; simp [alookup_ainsert_self]
  · have e' : ¬ (n, ch) = (n', ch') := fun e' => e (by cases e'; rfl)
    simp [alookup_ainsert_ne e, e']

theorem cnt_pressed (hcnt : ∀ ch n, d.count ch n = (holders d.noteTr (n, ch) : Int)) (hcode : code ∉ akeys d.noteTr)
    (ch' n' : Nat) : (pressed d code n ch).count ch' n' = (holders (pressed d code n ch).noteTr (n', ch') : Int) :=
  cnt_step hcnt rfl (fun p => by
    show ((holders (ainsert code (n, ch) d.noteTr) p : Nat) : Int) = _
    rw [holders_ainsert, aerase_of_not_mem hcode]; split <;> simp) ch' n'

theorem Explained.pressed (hs : Explained X d snd) (hcode : code ∉ akeys d.noteTr) (mode : Collision) (held : Bool)
    {v : Nat} (hch : ch < 16) (hv : 0 < v) :
    Explained X (EngineSim.pressed d code n ch) (sounding snd (pressOuts mode held ch n v)) := by
  have keep : ∀ s, Explained X d s → Explained X (EngineSim.pressed d code n ch) s := fun s hs p hp =>
    (hs p hp).imp_left (Held.ainsert hcode _)
  have hon : ∀ s, Explained X d s → Explained X (EngineSim.pressed d code n ch) (sinsert (ch, n) s) := fun s hs p hp =>
    (mem_sinsert.mp hp).elim (keep s hs p) fun e => e ▸ Or.inl held_ainsert_self
  have hoff : ∀ s, Explained X d s → Explained X d (serase (ch, n) s) := fun s hs p hp => hs p (mem_serase.mp hp).1
  have on1 : Explained X (EngineSim.pressed d code n ch) (sounding snd [noteOnMsg ch n v]) := by
    simp only [sounding, List.foldl, recv_on hch hv]; exact hon _ hs
  -- one Note On, except: `noRepeat` sends nothing for a held pair, `interrupt` a Note Off first
  cases mode <;> cases held
  case noRepeat.true => exact keep _ hs
  case interrupt.true =>
    simp only [pressOuts, sounding, List.foldl, recv_on hch hv, recv_off hch, if_true]; exact hon _ (hoff _ hs)
  all_goals exact on1

theorem cnt_released (hn : (akeys d.noteTr).Nodup) (hcnt : ∀ ch n, d.count ch n = (holders d.noteTr (n, ch) : Int))
    (hk : alookup code d.noteTr = some (n, ch)) (ch' n' : Nat) :
    (released d code n ch).count ch' n' = (holders (released d code n ch).noteTr (n', ch') : Int) :=
  cnt_step (δ := -1) hcnt rfl (fun p => by
    have := holders_aerase_of_lookup hn hk p
    show ((holders (aerase code d.noteTr) p : Nat) : Int) = _
    split at this <;> simp only [*, if_true, if_false] <;> omega) ch' n'

theorem Explained.released (hs : Explained X d snd) (hn : (akeys d.noteTr).Nodup)
    (hcnt : ∀ ch n, d.count ch n = (holders d.noteTr (n, ch) : Int)) (hk : alookup code d.noteTr = some (n, ch))
    (mode : Collision) (hch : ch < 16) :
    Explained X (EngineSim.released d code n ch) (sounding snd (releaseOuts mode (decide (d.count ch n = 1)) ch n)) := by
  have hoff : Explained X (EngineSim.released d code n ch) (serase (ch, n) snd) := fun p hp =>
    (hs p (mem_serase.mp hp).1).imp_left (Held.aerase hn hk (mem_serase.mp hp).2)
  -- no Note Off is sent while another key holds the pair: that key explains it afterwards
  have hquiet : d.count ch n ≠ 1 → Explained X (EngineSim.released d code n ch) snd := by
    intro hne p hp
    refine (hs p hp).imp_left fun hp' => ?_
    by_cases e : p = (ch, n)
    · subst e
      have h2 := holders_aerase_of_lookup hn hk (n, ch)
      have h3 := hcnt ch n
      have := holders_pos_iff.mpr hp'
      simp only [if_true] at h2
      exact holders_pos_iff.mp (show 0 < holders (aerase code d.noteTr) (n, ch) by omega)
    · exact Held.aerase hn hk e hp'
  cases mode <;> simp only [releaseOuts]
  · simp only [sounding, List.foldl, recv_off hch]; exact hoff
  all_goals
    by_cases h1 : d.count ch n = 1
    · simp only [h1, decide_true, if_true, sounding, List.foldl, recv_off hch]; exact hoff
    · simp only [h1, decide_false, sounding]; exact hquiet h1

end

theorem DInv.pressed {cfg : Config} {d : Dev} (hd : DInv cfg d) (code : Code) {n ch : Nat}
    (hn : n ≤ 127) (hc : ch < 16) : DInv cfg (pressed d code n ch) := by
  refine ⟨hd.cfg_eq, hd.dead, hd.ana, hd.ch, hd.map, hd.vel, hd.oct, hd.semi, ?_⟩
  intro p hp
  simp only [EngineSim.pressed] at hp
  rcases mem_ainsert.mp hp with ⟨h, -⟩ | rfl
  · exact hd.wf p h
  · exact ⟨hn, hc⟩

theorem Core.pressed {d : Dev} {snd : List (Nat × Nat)} (hc : Core d snd) {code : Code} (hcode : code ∉ akeys d.noteTr)
    (mode : Collision) {n ch v : Nat} (hch : ch < 16) (hv : 0 < v) :
    Core (pressed d code n ch) (sounding snd (pressOuts mode (decide (d.count ch n > 0)) ch n v)) :=
  ⟨nodup_akeys_ainsert hc.nodup, cnt_pressed hc.cnt hcode, fun p hp =>
    (Explained.pressed (X := fun _ => False) (fun p hp => Or.inl (hc.snd p hp)) hcode mode _ hch hv p hp).resolve_right id⟩

theorem pressOuts_ok (mode : Collision) (held : Bool) {ch n v : Nat} (hc : ch < 16) (hn : n ≤ 127) (hv : v ≤ 127) :
    (pressOuts mode held ch n v).all okOut = true := by
  cases mode <;> cases held <;> simp [pressOuts, okOut_on hc hn hv, okOut_off hc hn]

theorem pressOuts_midi (mode : Collision) (held : Bool) (ch n v : Nat) : (pressOuts mode held ch n v).all isMidi = true := by
  cases mode <;> cases held <;> rfl

theorem DInv.released {cfg : Config} {d : Dev} (hd : DInv cfg d) (code : Code) (n ch : Nat) :
    DInv cfg (released d code n ch) := by
  refine ⟨hd.cfg_eq, hd.dead, hd.ana, hd.ch, hd.map, hd.vel, hd.oct, hd.semi, ?_⟩
  intro p hp
  simp only [EngineSim.released] at hp
  exact hd.wf p (mem_aerase.mp hp).1

theorem releaseOuts_ok (mode : Collision) (last : Bool) {ch n : Nat} (hc : ch < 16) (hn : n ≤ 127) :
    (releaseOuts mode last ch n).all okOut = true := by
  cases mode <;> cases last <;> simp [releaseOuts, okOut_off hc hn]

theorem releaseOuts_midi (mode : Collision) (last : Bool) (ch n : Nat) : (releaseOuts mode last ch n).all isMidi = true := by
  cases mode <;> cases last <;> rfl

theorem Core.released {d : Dev} {snd : List (Nat × Nat)} (hc : Core d snd) {code : Code} {n ch : Nat}
    (hk : alookup code d.noteTr = some (n, ch)) (mode : Collision) (hch : ch < 16) :
    Core (released d code n ch) (sounding snd (releaseOuts mode (decide (d.count ch n = 1)) ch n)) :=
  ⟨nodup_akeys_aerase hc.nodup, cnt_released hc.nodup hc.cnt hk, fun p hp =>
    (Explained.released (X := fun _ => False) (fun p hp => Or.inl (hc.snd p hp)) hc.nodup hc.cnt hk mode hch p
      hp).resolve_right id⟩

theorem pressOuts_spec (mode : Collision) (cnt : Int) (h : Nat) (hc : cnt = (h : Int)) (ch n v : Nat) :
    pressOuts mode (decide (cnt > 0)) ch n v =
      (match mode with
      | .off | .retrigger => [noteOnMsg ch n v]
      | .noRepeat => if h = 0 then [noteOnMsg ch n v] else []
      | .interrupt => if h = 0 then [noteOnMsg ch n v] else [noteOffMsg ch n, noteOnMsg ch n v]) := by
  subst hc
  by_cases h0 : h = 0
  · subst h0; cases mode <;> simp [pressOuts]
  · cases mode <;> simp [pressOuts, h0]

theorem releaseOuts_spec (mode : Collision) (cnt : Int) (h : Nat) (hc : cnt = (h : Int)) (ch n : Nat) :
    releaseOuts mode (decide (cnt = 1)) ch n =
      (match mode with
      | .off => [noteOffMsg ch n]
      | _ => if h = 1 then [noteOffMsg ch n] else []) := by
  subst hc
  by_cases h1 : h = 1
  · subst h1; cases mode <;> simp [releaseOuts]
  · have : ¬ (h : Int) = 1 := by omega
    cases mode <;> simp [releaseOuts, h1, this]

end Hidi.EngineSim
