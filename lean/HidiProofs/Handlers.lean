/-
  HidiProofs.Handlers — each handler of the engine taken apart once.

  * What an operation may write, in one shape: `r = { d with <the fields it may write> := <r's> }`, so that
    "field f is kept" is `by rw [op_writes]`.
  * Rules with a variable motive: a relation between the state before and the result of an operation that holds of
    "nothing", of one operation after the other (`Seq`) and of the parts of a handler holds of the handler.  The nested
    conditionals are elaborated once, here and in the equations of the operations: `split` on them is slow to check,
    `iteInduction` with the motive known is not (where the goal does not show it: `let P r := …; show P _; unfold f`,
    as in `midiIn_writes`).
  Where an operation has two equations (`noteOn`, `noteOff`, `handleKey`), `f_eq0` is in the state's own terms and asks
  only for a current mapping / tracked channels below 16, `f_eq` is the same under `DInv` in the configuration's terms;
  `noteOff_raw` has no hypothesis and the message as the engine builds it.  The statements about the engine live in four
  namespaces: `Hidi` (`midiIn_*`, messages), `Hidi.EngineSim` (key path: equations, `Kept`, invariants),
  `Hidi.AxisKeyLemmas` (axis path: equations) and `Hidi.Handlers` (frames, rules).
-/
import HidiProofs.EngineSimModel
import HidiProofs.AxisKeyLemmas
import HidiProofs.MidiInLemmas
namespace Hidi.Handlers
open Hidi Hidi.Spec Hidi.EngineSim Hidi.AxisKeyLemmas

theorem noteOn_writes (d : Dev) (sub : Sub) (code : Code) :
    (d.noteOn sub code).1 = { d with noteTr := (d.noteOn sub code).1.noteTr, counter := (d.noteOn sub code).1.counter,
                                     dead := (d.noteOn sub code).1.dead } := by
  cases hm : d.curMap with
  | none => rw [noteOn_crash hm]
  | some m => rw [noteOn_eq0 hm]; split <;> rfl

theorem noteOff_writes (d : Dev) (code : Code) :
    (d.noteOff code).1 = { d with noteTr := (d.noteOff code).1.noteTr, counter := (d.noteOff code).1.counter } := by
  rw [noteOff_raw]; split <;> rfl

theorem noteOff_noteTr (d : Dev) (code : Code) : (d.noteOff code).1.noteTr = aerase code d.noteTr := by
  rw [noteOff_raw]
  cases hl : alookup code d.noteTr with
  | none => exact (aerase_of_alookup_none hl).symm
  | some q => rfl

theorem checkDouble_writes (d : Dev) :
    d.checkDouble.1 = { d with octave := d.checkDouble.1.octave, semitone := d.checkDouble.1.semitone,
                               channel := d.checkDouble.1.channel, mapping := d.checkDouble.1.mapping } := by
  rw [checkDouble_eq]; split <;> rfl

theorem invokePress_writes (d : Dev) (a : Action) :
    (d.invokePress a).1 = { d with octave := (d.invokePress a).1.octave, semitone := (d.invokePress a).1.semitone,
                                   channel := (d.invokePress a).1.channel, mapping := (d.invokePress a).1.mapping,
                                   learning := (d.invokePress a).1.learning, ext := (d.invokePress a).1.ext } := by
  rw [invokePress_eq]; rfl

theorem invokeRelease_writes (d : Dev) (a : Action) :
    d.invokeRelease a = { d with learning := (d.invokeRelease a).learning } := by
  unfold Dev.invokeRelease
  split <;> rfl

theorem multinote_writes (d : Dev) : d.multinote = { d with multi := d.multinote.multi } := by
  rw [multinote_eq]

structure Seq (Q : Dev → Dev × List Out → Prop) : Prop where
  nil : ∀ d, Q d (d, [])
  seq : ∀ {d r s}, Q d r → Q r.1 s → Q d (s.1, r.2 ++ s.2)

variable {Q : Dev → Dev × List Out → Prop}

theorem Seq.andThen (hQ : Seq Q) {d d' : Dev} {r : Dev × List Out} (h1 : Q d r) (h2 : Q r.1 (d', [])) : Q d (d', r.2) := by
  have := hQ.seq h1 h2
  rwa [List.append_nil] at this

theorem Seq.after (hQ : Seq Q) {d d' : Dev} {s : Dev × List Out} (h1 : Q d (d', [])) (h2 : Q d' s) : Q d s :=
  hQ.seq h1 h2

theorem keeps_seq {α} (π : Dev → α) : Seq (fun d r => π r.1 = π d) := ⟨fun _ => rfl, fun h1 h2 => h2.trans h1⟩

theorem releaseAxis_rule (hQ : Seq Q) (off : ∀ d id, Q d (d.analogNoteOff id)) (d : Dev) (code : Code) :
    Q d (d.releaseAxis code) :=
  hQ.seq (off _ _) (off _ _)

/-- `on`: an identifier is switched on only while it is not tracked -/
theorem absKey_rule (hQ : Seq Q) (off : ∀ d id, Q d (d.analogNoteOff id))
    (on : ∀ d id n c, alookup id d.anaTr = none → Q d (d.analogNoteOn id n c))
    (d : Dev) (a : Analog) (code : Code) (canNeg : Bool) (v0 : Rat) : Q d (d.absKey a code canNeg v0) := by
  refine absKey_cases d a code canNeg v0 (fun neg => hQ.seq ?_ (off _ _)) (releaseAxis_rule hQ off d code) (hQ.nil d)
  unfold sideOn
  exact iteInduction (fun h => on _ _ _ _ (Option.isNone_iff_eq_none.mp h.2)) fun _ => hQ.nil d

/-- `emit`: a controller message on a channel below 16; `zero`: a change of `ccZeroed` -/
theorem bidirCC_rule (hQ : Seq Q) (emit : ∀ d c fn v, c < 16 → Q d (d, [ccEvent c fn v]))
    (zero : ∀ d cc b, Q d (d.setZeroed cc b, [])) (d : Dev) (a : Analog) (neg : Bool) (adj : Rat) :
    Q d (d.bidirCC a neg adj) := by
  have lt := near_lt a d.channel
  rw [bidirCC_eq]
  exact iteInduction (fun _ => hQ.andThen (emit d _ _ _ (lt _)) (zero _ _ _))
    fun _ => hQ.andThen (hQ.seq (emit d _ _ _ (lt _)) (hQ.after (zero _ _ _) (emit _ _ _ _ (lt _)))) (zero _ _ _)

theorem absCC_rule (hQ : Seq Q) (emit : ∀ d c fn v, c < 16 → Q d (d, [ccEvent c fn v]))
    (zero : ∀ d cc b, Q d (d.setZeroed cc b, [])) (d : Dev) (a : Analog) (canNeg : Bool) (v : Rat) :
    Q d (d.absCC a canNeg v) := by
  rw [absCC_eq]
  exact iteInduction (fun _ => bidirCC_rule hQ emit zero _ _ _ _) fun _ => emit _ _ _ _ (chanOf_lt _ _)

/-- `cd`: `checkDoubleActions`; `act`: a change of the action tracker -/
theorem absAction_rule (hQ : Seq Q) (cd : ∀ d, Q d (d.checkDouble.1, [])) (press : ∀ d a, Q d (d.invokePress a))
    (rel : ∀ d a, Q d (d.invokeRelease a, [])) (act : ∀ d l, Q d ({ d with actTr := l }, []))
    (d : Dev) (a : Analog) (canNeg : Bool) (v0 : Rat) : Q d (d.absAction a canNeg v0) := by
  -- the new tracker values are spelt out: unification cannot recover them from the states that follow
  have ins : ∀ d x, Q d ({ d with actTr := sinsert x d.actTr }, []) := fun d x => act d _
  have ers : ∀ d x, Q d ({ d with actTr := serase x d.actTr }, []) := fun d x => act d _
  unfold Dev.absAction
  -- the result of `checkDoubleActions` as a variable: otherwise the unifier unfolds it at every branch below
  have h0 := cd d
  generalize d.checkDouble = r at h0 ⊢
  refine hQ.after h0 ?_
  exact iteInduction (fun _ => hQ.nil _)
    fun _ => iteInduction
      (fun _ => hQ.andThen (press _ a.actNeg) (hQ.after (ins _ a.actNeg) (hQ.after (rel _ a.act) (ers _ a.act))))
    fun _ => iteInduction
      (fun _ => hQ.after (rel _ a.actNeg) (hQ.after (rel _ a.act) (hQ.after (ers _ a.actNeg) (ers _ a.act))))
    fun _ => iteInduction
      (fun _ => hQ.andThen (press _ a.act) (hQ.after (ins _ a.act) (hQ.after (ers _ a.actNeg) (rel _ a.actNeg))))
    fun _ => hQ.nil _

/-- `handleABSEvent`.  `crash`: a Go panic; `last`: the update of `lastAnalogValue`; `pb`: a pitch-bend message -/
theorem handleAbs_rule (hQ : Seq Q) (crash : ∀ d, Q d ({ d with dead := true }, [.panic]))
    (off : ∀ d id, Q d (d.analogNoteOff id)) (last : ∀ d l, Q d ({ d with lastAna := l }, []))
    (cc : ∀ d a cn v, Q d (d.absCC a cn v)) (pb : ∀ d c v, c < 16 → Q d (d, [pitchBendEvent c v]))
    (key : ∀ d a c cn v, Q d (d.absKey a c cn v)) (action : ∀ d a cn v, Q d (d.absAction a cn v))
    (d : Dev) (sub : Sub) (node : String) (code : Code) (raw : Int) : Q d (d.handleAbs sub node code raw) := by
  have tail : ∀ d a cn w, Q d (BodiesTie.tailW d a sub code cn w) := fun d a cn w => by
    unfold BodiesTie.tailW BodiesTie.kindDispatch
    refine iteInduction (fun _ => hQ.nil _) fun _ => iteInduction (fun _ => last _ _) fun _ => ?_
    cases a.kind with
    | cc => exact hQ.after (last _ _) (cc _ _ _ _)
    | pitchBend => exact hQ.after (last _ _) (pb _ _ _ (chanOf_lt _ _))
    | key => exact hQ.after (last _ _) (key _ _ _ _ _)
    | action => exact hQ.after (last _ _) (action _ _ _ _)
  cases hm : d.curMap with
  | none => rw [handleAbs_crash hm]; exact crash d
  | some m =>
    cases ha : alookup (sub, code) m.analog with
    | none => rw [handleAbs_miss hm ha]; exact releaseAxis_rule hQ off d code
    | some a =>
      rw [BodiesTie.handleAbs_model d m a sub node code raw hm ha]
      have hpre : Q d (if a.kind = .key then (d, ([] : List Out)) else d.releaseAxis code) :=
        iteInduction (fun _ => hQ.nil d) fun _ => releaseAxis_rule hQ off d code
      generalize (if a.kind = .key then (d, ([] : List Out)) else d.releaseAxis code) = r at hpre
      unfold BodiesTie.tailA
      cases m.deadzone sub code with
      | none => exact hQ.seq hpre (crash r.1)
      | some dz => exact hQ.seq hpre (tail _ _ _ _)

/-- the fields an axis event may write; octave, semitone, channel, mapping, `learning` and `ext` by the emulated actions -/
def AbsWrites (d : Dev) (r : Dev × List Out) : Prop :=
  r.1 = { d with octave := r.1.octave, semitone := r.1.semitone, channel := r.1.channel, mapping := r.1.mapping,
                 learning := r.1.learning, anaTr := r.1.anaTr, lastAna := r.1.lastAna, actTr := r.1.actTr,
                 ccZeroed := r.1.ccZeroed, ext := r.1.ext, dead := r.1.dead }

theorem handleAbs_writes (d : Dev) (sub : Sub) (node : String) (code : Code) (raw : Int) :
    AbsWrites d (d.handleAbs sub node code raw) := by
  have hQ : Seq AbsWrites := ⟨fun _ => rfl, fun {d r s} h1 h2 => by
    unfold AbsWrites at *
    show s.1 = _
    rw [h2, h1]⟩
  have off : ∀ (d : Dev) id, AbsWrites d (d.analogNoteOff id) := fun d id => by unfold AbsWrites; rw [analogNoteOff_eq]
  exact handleAbs_rule hQ (fun _ => rfl) off (fun _ _ => rfl)
    (absCC_rule hQ (fun _ _ _ _ _ => rfl) fun _ _ _ => rfl) (fun _ _ _ _ => rfl)
    (absKey_rule hQ off fun d _ _ _ _ => by unfold AbsWrites; rw [analogNoteOn_writes])
    (absAction_rule hQ (fun d => by unfold AbsWrites; rw [checkDouble_writes])
      (fun d a => by unfold AbsWrites; rw [invokePress_writes])
      (fun d a => by unfold AbsWrites; rw [invokeRelease_writes]) fun _ _ => rfl) d sub node code raw

theorem handleKey_cases {P : Dev × List Out → Prop} (d : Dev) (sub : Sub) (code : Code) (val : Int)
    (crash : d.curMap = none → P ({ d with dead := true }, [.panic]))
    (sig : val = 1 → (kt d code val).exitComplete = true → P (kt d code val, [.sig]))
    (press : ¬ (val = 1 ∧ (kt d code val).exitComplete = true) → ∀ a, alookup code d.cfg.actions = some a → val = 1 →
      P (actPress (kt d code val) a))
    (rel : ∀ a, alookup code d.cfg.actions = some a → val = 0 → P (actRelease (kt d code val) a, []))
    (on : ¬ (val = 1 ∧ (kt d code val).exitComplete = true) → alookup code d.cfg.actions = none → val = 1 →
      P ((kt d code val).noteOn sub code))
    (off : alookup code d.cfg.actions = none → val = 0 → P ((kt d code val).noteOff code))
    (nil : val ≠ 1 → val ≠ 0 → P (kt d code val, [])) :
    P (d.handleKey sub code val) := by
  cases hm : d.curMap with
  | none => rw [handleKey_crash hm]; exact crash hm
  | some m =>
    rw [handleKey_eq0 hm]
    refine iteInduction (fun h => sig h.1 h.2) fun hn => ?_
    cases ha : alookup code d.cfg.actions with
    | some a =>
      exact iteInduction (fun h => press hn a ha h) fun h1 => iteInduction (fun h => rel a ha h) fun h0 => nil h1 h0
    | none => exact iteInduction (fun h => on hn ha h) fun h1 => iteInduction (fun h => off ha h) fun h0 => nil h1 h0

theorem actPress_rule (hQ : Seq Q) (cd : ∀ d, Q d (d.checkDouble.1, [])) (press : ∀ d a, Q d (d.invokePress a))
    (act : ∀ d l, Q d ({ d with actTr := l }, [])) (d : Dev) (a : Action) : Q d (actPress d a) := by
  rw [actPress_eq]
  exact hQ.after (act d _) (iteInduction (fun _ => cd _) fun _ => press _ _)

theorem actRelease_rule (hQ : Seq Q) (multi : ∀ d, Q d (d.multinote, [])) (rel : ∀ d a, Q d (d.invokeRelease a, []))
    (act : ∀ d l, Q d ({ d with actTr := l }, [])) (d : Dev) (a : Action) : Q d (actRelease d a, []) := by
  unfold actRelease
  exact hQ.after (iteInduction (motive := fun x => Q d (x, [])) (fun _ => multi d) fun _ => hQ.nil d)
    (hQ.after (rel _ a) (act _ _))

theorem handleKey_rule (hQ : Seq Q) (sig : ∀ d, Q d (d, [.sig]))
    (cd : ∀ d, Q d (d.checkDouble.1, [])) (press : ∀ d a, Q d (d.invokePress a))
    (multi : ∀ d, Q d (d.multinote, [])) (rel : ∀ d a, Q d (d.invokeRelease a, []))
    (act : ∀ d l, Q d ({ d with actTr := l }, []))
    (on : ∀ d s c, Q d (d.noteOn s c)) (off : ∀ d c, Q d (d.noteOff c))
    {d : Dev} {m : Mapping} (hm : d.curMap = some m) (sub : Sub) (code : Code) (val : Int) :
    Q (kt d code val) (d.handleKey sub code val) :=
  handleKey_cases d sub code val (fun h => nomatch hm.symm.trans h) (fun _ _ => sig _)
    (fun _ a _ _ => actPress_rule hQ cd press act _ a) (fun a _ _ => actRelease_rule hQ multi rel act _ a)
    (fun _ _ _ => on _ _ _) (fun _ _ => off _ _) (fun _ _ => hQ.nil _)

/-- the fields a key event may write; `ext` by panic -/
def KeyWrites (d : Dev) (r : Dev × List Out) : Prop :=
  r.1 = { d with octave := r.1.octave, semitone := r.1.semitone, channel := r.1.channel, mapping := r.1.mapping,
                 learning := r.1.learning, multi := r.1.multi, noteTr := r.1.noteTr, counter := r.1.counter,
                 actTr := r.1.actTr, keyTr := r.1.keyTr, ext := r.1.ext, dead := r.1.dead }

theorem handleKey_writes (d : Dev) (sub : Sub) (code : Code) (val : Int) : KeyWrites d (d.handleKey sub code val) := by
  have hQ : Seq KeyWrites := ⟨fun _ => rfl, fun {d r s} h1 h2 => by
    unfold KeyWrites at *
    show s.1 = _
    rw [h2, h1]⟩
  cases hm : d.curMap with
  | none => rw [handleKey_crash hm]; rfl
  | some m =>
    have := handleKey_rule hQ (fun _ => rfl) (fun d => by unfold KeyWrites; rw [checkDouble_writes])
      (fun d a => by unfold KeyWrites; rw [invokePress_writes]) (fun d => by unfold KeyWrites; rw [multinote_writes])
      (fun d a => by unfold KeyWrites; rw [invokeRelease_writes]) (fun _ _ => rfl)
      (fun d s c => by unfold KeyWrites; rw [noteOn_writes]) (fun d c => by unfold KeyWrites; rw [noteOff_writes])
      hm sub code val
    unfold KeyWrites at this ⊢
    rw [this, kt_writes]

theorem handleKey_keyTr {d : Dev} {m : Mapping} (hm : d.curMap = some m) (sub : Sub) (code : Code) (val : Int) :
    (d.handleKey sub code val).1.keyTr = (kt d code val).keyTr :=
  handleKey_rule (keeps_seq (·.keyTr)) (fun _ => rfl) (fun d => by rw [checkDouble_writes])
    (fun d a => by rw [invokePress_writes]) (fun d => by rw [multinote_writes]) (fun d a => by rw [invokeRelease_writes])
    (fun _ _ => rfl) (fun d s c => by rw [noteOn_writes]) (fun d c => by rw [noteOff_writes]) hm sub code val

theorem step_cases {P : Dev × List Out → Prop} (d : Dev) (e : Ev) (dead : d.dead = true → P (d, []))
    (syn : e = .syn → P (d, [])) (rep : ∀ s c, e = .key s c 2 → P (d, []))
    (key : ∀ s c v, e = .key s c v → v ≠ 2 → P (d.handleKey s c v))
    (abs : ∀ s n c v, e = .abs s n c v → P (d.handleAbs s n c v))
    (ext : ∀ a b c x, e = .midiIn a b c → P ({ d with ext := x }, [])) : P (d.step e) := by
  unfold Dev.step
  refine iteInduction dead fun _ => ?_
  cases e with
  | syn => exact syn rfl
  | key s c v => exact iteInduction (fun h => rep s c (by rw [h])) fun hv => key s c v rfl hv
  | abs s n c v => exact abs s n c v rfl
  | midiIn a b c =>
    dsimp only; rw [midiIn_writes]; exact ext a b c _ rfl

theorem step_const (d : Dev) (e : Ev) : (d.step e).1.cfg = d.cfg ∧ (d.step e).1.velocity = d.velocity := by
  refine step_cases (P := fun r => r.1.cfg = d.cfg ∧ r.1.velocity = d.velocity) d e (fun _ => ⟨rfl, rfl⟩)
    (fun _ => ⟨rfl, rfl⟩) (fun _ _ _ => ⟨rfl, rfl⟩) ?_ ?_ (fun _ _ _ _ _ => ⟨rfl, rfl⟩)
  · intro s c v _ _
    rw [handleKey_writes]; exact ⟨rfl, rfl⟩
  · intro s n c v _
    rw [handleAbs_writes]; exact ⟨rfl, rfl⟩

theorem run_induction {P : Dev → Prop} {evs : List Ev} (step : ∀ d, ∀ e ∈ evs, P d → P (d.step e).1) {d : Dev}
    (h : P d) : P (d.run evs).1 := by
  induction evs generalizing d with
  | nil => exact h
  | cons e es ih =>
    exact ih (fun d e he => step d e (List.mem_cons_of_mem _ he)) (step d e List.mem_cons_self h)

theorem run_const (evs : List Ev) (d : Dev) : (d.run evs).1.cfg = d.cfg ∧ (d.run evs).1.velocity = d.velocity :=
  run_induction (P := fun r => r.cfg = d.cfg ∧ r.velocity = d.velocity)
    (fun r e _ h => ⟨(step_const r e).1.trans h.1, (step_const r e).2.trans h.2⟩) ⟨rfl, rfl⟩

/-- the shape of the two loops of the disconnect clean-up (`Dev.cleanupWith`) -/
theorem foldl_rule (hQ : Seq Q) {κ : Type} (f : Dev → κ → Dev × List Out) (hf : ∀ d c, Q d (f d c)) (d0 : Dev)
    (l : List κ) : ∀ acc : Dev × List Out, Q d0 acc →
    Q d0 (l.foldl (fun (acc : Dev × List Out) c => let (d', o) := f acc.1 c; (d', acc.2 ++ o)) acc) := by
  induction l with
  | nil => intro acc h; exact h
  | cons c r ih => intro acc h; exact ih _ (hQ.seq h (hf _ c))

theorem cleanupWith_rule (hQ : Seq Q) (off : ∀ d c, Q d (d.noteOff c)) (aoff : ∀ d id, Q d (d.analogNoteOff id))
    (d : Dev) (order : List Code) (aorder : List (Code × Bool)) : Q d (d.cleanupWith order aorder) :=
  hQ.seq (foldl_rule hQ _ off d order _ (hQ.nil d)) (foldl_rule hQ _ aoff _ aorder _ (hQ.nil _))

theorem cleanup_alive {d : Dev} (h : d.dead = false) : d.cleanup = d.cleanupWith (akeys d.noteTr) (akeys d.anaTr) := by
  unfold Dev.cleanup; rw [h]; rfl

end Hidi.Handlers
