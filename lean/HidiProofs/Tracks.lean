/-
  HidiProofs.Tracks — the tracker invariant of the key handler, once for key-only and for mixed histories: the note
  tracker has one entry per key, its keys are held note keys, the counters count the holders, and whatever a receiver
  hears is recorded in the note tracker or explained otherwise (the `X` of `Explained`).  A key event inside the press
  discipline keeps it, from any state with a current mapping.
-/
import HidiProofs.Handlers
namespace Hidi.EngineSim
open Hidi Hidi.Spec Hidi.Handlers

structure Tracks (X : Nat × Nat → Prop) (d : Dev) (snd : List (Nat × Nat)) : Prop where
  nodup : (akeys d.noteTr).Nodup
  cnt : ∀ ch n, d.count ch n = (holders d.noteTr (n, ch) : Int)
  keys : ∀ k ∈ akeys d.noteTr, k ∈ d.keyTr ∧ alookup k d.cfg.actions = none
  snd : Explained X d snd

theorem Tracks.keeps {X : Nat × Nat → Prop} {d d' : Dev} {s s' : List (Nat × Nat)} (h : Tracks X d s)
    (hn : d'.noteTr = d.noteTr) (hc : d'.counter = d.counter) (hcfg : d'.cfg = d.cfg)
    (hkey : ∀ k ∈ akeys d.noteTr, k ∈ d.keyTr → k ∈ d'.keyTr) (hs : ∀ p ∈ s', p ∈ s) : Tracks X d' s' := by
  refine ⟨hn ▸ h.nodup, fun ch n => ?_, fun k hkm => ?_, fun p hp => ?_⟩
  · have := h.cnt ch n
    unfold Dev.count at this ⊢
    rw [hn, hc]; exact this
  · rw [hn] at hkm
    exact ⟨hkey k hkm (h.keys k hkm).1, hcfg ▸ (h.keys k hkm).2⟩
  · have := h.snd p (hs p hp)
    unfold Held at this ⊢
    rw [hn]; exact this

theorem Tracks.released {X : Nat × Nat → Prop} {d : Dev} {snd : List (Nat × Nat)} (h : Tracks X d snd) {code : Code}
    {n ch : Nat} (hl : alookup code d.noteTr = some (n, ch)) (hc : ch < 16) :
    Tracks X (released d code n ch) (sounding snd (releaseOuts d.cfg.mode (decide (d.count ch n = 1)) ch n)) :=
  ⟨nodup_akeys_aerase h.nodup, cnt_released h.nodup h.cnt hl, fun k hkm => h.keys k (mem_akeys_aerase.mp hkm).1,
    h.snd.released h.nodup h.cnt hl _ hc⟩

/-- the hypotheses on the channel, the tracked channels and the velocity hold in every state of every history (C05) -/
theorem handleKey_tracks {X : Nat × Nat → Prop} {d : Dev} {snd : List (Nat × Nat)} (h : Tracks X d snd)
    (hch : d.channel < 16) (hwf : ∀ p ∈ d.noteTr, p.2.2 < 16) (hvel : 0 < d.velocity) {m : Mapping} (hm : d.curMap = some m)
    (sub : Sub) (code : Code) {val : Int} (hv : val = 0 ∨ val = 1) (hpress : val = 1 → code ∉ d.keyTr) :
    Tracks X (d.handleKey sub code val).1 (sounding snd (d.handleKey sub code val).2) := by
  have hk := kt_kept d code val
  have same : ∀ p ∈ snd, p ∈ snd := fun _ h => h
  -- the state after the update of the key tracker, with the hypothesis under which the invariant survives it
  have h1 : (val = 1 ∨ code ∉ akeys d.noteTr) → Tracks X (kt d code val) snd := fun hc =>
    h.keeps hk.noteTr hk.counter hk.cfg (fun k hkm hkt => by
      rw [kt_keyTr]; split
      · exact mem_sinsert.mpr (Or.inl hkt)
      · exact mem_serase.mpr ⟨hkt, fun e => hc.resolve_left ‹_› (e ▸ hkm)⟩) same
  have hm1 : (kt d code val).curMap = some m := (kt_curMap d code val).trans hm
  refine handleKey_cases (P := fun r => Tracks X r.1 (sounding snd r.2)) d sub code val (fun e => nomatch hm.symm.trans e)
    (fun e _ => h1 (Or.inl e)) ?press ?rel ?on ?off (fun e1 e0 => absurd (hv.resolve_left e0) e1)
  case press =>
    intro _ a _ e
    have f := actPress_frame (kt d code val) a
    refine (h1 (Or.inl e)).keeps f.noteTr f.counter f.cfg (fun k _ hkt => by rw [f.keyTr]; exact hkt) (sounding_quiet_subset ?_)
    rcases actPress_outs (kt d code val) a with ho | ⟨-, ho⟩ <;> rw [ho]
    · rfl
    · exact hk.channel ▸ panicOuts_quiet _ hch
  case rel =>
    intro a ha _
    have hc : code ∉ akeys d.noteTr := fun hc => by have := (h.keys code hc).2; rw [ha] at this; cases this
    have f := actRelease_kept (kt d code val) a
    exact (h1 (Or.inr hc)).keeps f.noteTr f.counter f.cfg (fun k _ hkt => by rw [actRelease_keyTr]; exact hkt) same
  case on =>
    intro _ ha e
    have hcode : code ∉ akeys (kt d code val).noteTr := fun hc => hpress e (h.keys code (hk.noteTr ▸ hc)).1
    have ht := h1 (Or.inl e)
    refine noteOn_cases (P := fun r => Tracks X r.1 (sounding snd r.2)) hm1 sub code ht fun n ch _ hc => ?_
    refine ⟨nodup_akeys_ainsert ht.nodup, cnt_pressed ht.cnt hcode, fun k hkm => ?_,
      ht.snd.pressed hcode _ _ hc (hk.velocity ▸ hvel)⟩
    rcases mem_akeys_ainsert.mp hkm with hk' | rfl
    · exact ht.keys k hk'
    · exact ⟨by show _ ∈ (kt d _ val).keyTr; rw [kt_keyTr, if_pos e]; exact mem_sinsert.mpr (Or.inr rfl), hk.cfg ▸ ha⟩
  case off =>
    intro _ e
    refine noteOff_cases (P := fun r => Tracks X r.1 (sounding snd r.2)) (hk.noteTr ▸ hwf) code
      (fun hl => h1 (Or.inr (hk.noteTr ▸ alookup_eq_none.mp hl))) fun n ch hl hc => ?_
    -- the entry goes together with the key (the invariant need not hold in between): the release in `d`, then the key
    rw [kt_writes] at hl ⊢
    refine (h.released hl hc).keeps rfl rfl rfl (fun k hkm hkt => ?_) fun _ hp => hp
    show k ∈ (kt d code val).keyTr
    rw [kt_keyTr, if_neg (by omega)]
    exact mem_serase.mpr ⟨hkt, (mem_akeys_aerase.mp hkm).2⟩

end Hidi.EngineSim
