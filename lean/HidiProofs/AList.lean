/-
  HidiProofs.AList — Go maps as association lists (`alookup`, `aerase`, `ainsert`, `akeys`) and sets as lists
  (`sinsert`, `serase`) of `Hidi.Basic`: membership, keys, look-up after update.
-/
import Hidi.Basic
namespace Hidi
universe u v

section alist
variable {κ : Type u} {α : Type v} [DecidableEq κ]

theorem alookup_cons (k k' : κ) (a : α) (r : List (κ × α)) :
    alookup k ((k', a) :: r) = if k' = k then some a else alookup k r := rfl

omit [DecidableEq κ] in
theorem mem_akeys_of_mem {p : κ × α} {l : List (κ × α)} (h : p ∈ l) : p.1 ∈ akeys l := List.mem_map_of_mem h

theorem mem_aerase {k : κ} {l : List (κ × α)} {p : κ × α} : p ∈ aerase k l ↔ p ∈ l ∧ p.1 ≠ k := by
  simp [aerase, List.mem_filter]

theorem mem_ainsert {k : κ} {a : α} {l : List (κ × α)} {p : κ × α} :
    p ∈ ainsert k a l ↔ (p ∈ l ∧ p.1 ≠ k) ∨ p = (k, a) := by
  simp [ainsert, mem_aerase]

theorem akeys_aerase {k : κ} {l : List (κ × α)} : akeys (aerase k l) = (akeys l).filter (· ≠ k) := by
  simp [akeys, aerase, List.filter_map, Function.comp_def]

theorem mem_akeys_aerase {k k' : κ} {l : List (κ × α)} : k' ∈ akeys (aerase k l) ↔ k' ∈ akeys l ∧ k' ≠ k := by
  rw [akeys_aerase]; simp [List.mem_filter]

theorem nodup_akeys_aerase {k : κ} {l : List (κ × α)} (h : (akeys l).Nodup) : (akeys (aerase k l)).Nodup := by
  rw [akeys_aerase]; exact h.filter _

theorem akeys_ainsert {k : κ} {a : α} {l : List (κ × α)} : akeys (ainsert k a l) = akeys (aerase k l) ++ [k] := by
  simp [akeys, ainsert]

theorem mem_akeys_ainsert {k k' : κ} {a : α} {l : List (κ × α)} :
    k' ∈ akeys (ainsert k a l) ↔ k' ∈ akeys l ∨ k' = k := by
  rw [akeys_ainsert, List.mem_append, mem_akeys_aerase]
  by_cases h : k' = k <;> simp [h]

theorem nodup_akeys_ainsert {k : κ} {a : α} {l : List (κ × α)} (h : (akeys l).Nodup) :
    (akeys (ainsert k a l)).Nodup := by
  rw [akeys_ainsert, List.nodup_append]
  refine ⟨nodup_akeys_aerase h, by simp, ?_⟩
  intro x hx y hy
  rw [List.mem_singleton.mp hy]
  exact (mem_akeys_aerase.mp hx).2

theorem alookup_eq_none {k : κ} {l : List (κ × α)} : alookup k l = none ↔ k ∉ akeys l := by
  induction l with
  | nil => simp [alookup, akeys]
  | cons p r ih =>
    obtain ⟨k', a⟩ := p
    by_cases h : k' = k
    · simp [alookup, akeys, h]
    · simp [alookup, h, ih, akeys, Ne.symm h]

theorem aerase_of_not_mem {k : κ} {l : List (κ × α)} (h : k ∉ akeys l) : aerase k l = l := by
  rw [aerase, List.filter_eq_self]
  intro p hp
  have : p.1 ≠ k := fun e => h (e ▸ mem_akeys_of_mem hp)
  simpa using this

theorem aerase_of_alookup_none {k : κ} {l : List (κ × α)} (h : alookup k l = none) : aerase k l = l :=
  aerase_of_not_mem (alookup_eq_none.mp h)

theorem alookup_mem {k : κ} {a : α} {l : List (κ × α)} (h : alookup k l = some a) : (k, a) ∈ l := by
  induction l with
  | nil => cases h
  | cons p r ih =>
    obtain ⟨k', a'⟩ := p
    rw [alookup_cons] at h
    split at h
    · rename_i hk; cases h; cases hk; exact List.mem_cons_self
    · exact List.mem_cons_of_mem _ (ih h)

theorem mem_akeys_of_alookup {k : κ} {a : α} {l : List (κ × α)} (h : alookup k l = some a) : k ∈ akeys l :=
  mem_akeys_of_mem (alookup_mem h)

theorem alookup_of_mem_nodup {k : κ} {a : α} {l : List (κ × α)} (hn : (akeys l).Nodup) (h : (k, a) ∈ l) :
    alookup k l = some a := by
  induction l with
  | nil => cases h
  | cons p r ih =>
    obtain ⟨k', a'⟩ := p
    simp only [akeys, List.map_cons, List.nodup_cons] at hn
    rcases List.mem_cons.mp h with e | hr
    · cases e; simp [alookup]
    · have : k' ≠ k := fun e => hn.1 (e ▸ mem_akeys_of_mem hr)
      rw [alookup_cons, if_neg this]; exact ih hn.2 hr

theorem alookup_append {k : κ} {l1 l2 : List (κ × α)} :
    alookup k (l1 ++ l2) = (alookup k l1 <|> alookup k l2) := by
  induction l1 with
  | nil => simp [alookup]
  | cons p r ih =>
    obtain ⟨k', a'⟩ := p
    by_cases h : k' = k <;> simp [alookup, h, ih]

theorem alookup_filter (q : κ → Bool) (k : κ) (l : List (κ × α)) :
    alookup k (l.filter fun p => q p.1) = if q k = true then alookup k l else none := by
  induction l with
  | nil => simp [alookup]
  | cons p r ih =>
    obtain ⟨k', a⟩ := p
    by_cases hk : k' = k
    · subst hk; cases hq : q k' <;> simp [alookup, hq, ih]
    · cases hq : q k' <;> simp [alookup, hq, hk, ih]

theorem alookup_aerase {k k' : κ} {l : List (κ × α)} :
    alookup k' (aerase k l) = if k' = k then none else alookup k' l := by
  refine (alookup_filter (fun x => decide (x ≠ k)) k' l).trans ?_
  by_cases h : k' = k <;> simp [h]

theorem alookup_aerase_self {k : κ} {l : List (κ × α)} : alookup k (aerase k l) = none := by
  rw [alookup_aerase, if_pos rfl]

theorem alookup_aerase_ne {k k' : κ} {l : List (κ × α)} (h : k' ≠ k) : alookup k' (aerase k l) = alookup k' l := by
  rw [alookup_aerase, if_neg h]

theorem alookup_aerase_some {k k' : κ} {l : List (κ × α)} {v : α} (h : alookup k' (aerase k l) = some v) :
    k' ≠ k ∧ alookup k' l = some v := by
  by_cases hk : k' = k
  · subst hk; rw [alookup_aerase_self] at h; cases h
  · rw [alookup_aerase_ne hk] at h; exact ⟨hk, h⟩

theorem alookup_ainsert_self {k : κ} {a : α} {l : List (κ × α)} : alookup k (ainsert k a l) = some a := by
  rw [ainsert, alookup_append, alookup_aerase_self]
  simp [alookup]

theorem alookup_ainsert_ne {k k' : κ} {a : α} {l : List (κ × α)} (h : k' ≠ k) :
    alookup k' (ainsert k a l) = alookup k' l := by
  rw [ainsert, alookup_append, alookup_aerase_ne h]
  cases alookup k' l <;> simp [alookup, Ne.symm h]

omit [DecidableEq κ] in
theorem akeys_map {β : Type v} {f : κ × α → κ × β} (hf : ∀ p, (f p).1 = p.1) (l : List (κ × α)) :
    akeys (l.map f) = akeys l := by
  simp [akeys, List.map_map, Function.comp_def, hf]

theorem alookup_snoc_some {k k' : κ} {a v : α} {l : List (κ × α)}
    (h : alookup k' (l ++ [(k, a)]) = some v) : alookup k' l = some v ∨ (k' = k ∧ v = a) := by
  rw [alookup_append] at h
  cases hx : alookup k' l with
  | some _ => rw [hx] at h; exact .inl h
  | none =>
    simp only [hx, Option.orElse_eq_orElse, Option.orElse_none, alookup_cons] at h
    split at h
    · rename_i e; exact .inr ⟨e.symm, (Option.some.inj h).symm⟩
    · cases h

theorem alookup_map_set (l : List (κ × α)) (k k' : κ) (a : α) :
    alookup k' (l.map fun p => if p.1 = k then (k, a) else p) =
      if k' = k then (alookup k l).map (fun _ => a) else alookup k' l := by
  induction l with
  | nil => simp [alookup]
  | cons p r ih =>
    obtain ⟨k0, v⟩ := p
    simp only [List.map_cons, alookup]
    by_cases hk : k0 = k
    · subst hk
      by_cases h' : k' = k0
      · simp [h']
      · simp [h', Ne.symm h', ih]
    · by_cases h' : k' = k
      · subst h'; simp [hk, ih]
      · simp only [hk, h', if_false, ih]

theorem foldl_aerase_nil (l : List κ) : ∀ (t : List (κ × α)), (∀ k ∈ akeys t, k ∈ l) →
    l.foldl (fun t c => aerase c t) t = [] := by
  induction l with
  | nil =>
    intro t h
    exact List.map_eq_nil_iff.mp (List.eq_nil_iff_forall_not_mem.mpr fun k hk => nomatch h k hk)
  | cons c l ih =>
    intro t h
    refine ih _ fun k hk => ?_
    rw [mem_akeys_aerase] at hk
    exact (List.mem_cons.mp (h k hk.1)).resolve_left hk.2

theorem snd_unique {l : List (κ × α)} {p q : κ × α} (hn : (akeys l).Nodup) (hp : p ∈ l) (hq : q ∈ l) (hk : p.1 = q.1) :
    p.2 = q.2 :=
  Option.some.inj ((alookup_of_mem_nodup hn (show (p.1, p.2) ∈ l from hp)).symm.trans
    (hk ▸ alookup_of_mem_nodup hn (show (q.1, q.2) ∈ l from hq)))

end alist

section sset
variable {α : Type u} [DecidableEq α]

theorem mem_sinsert {a x : α} {l : List α} : x ∈ sinsert a l ↔ x ∈ l ∨ x = a := by
  unfold sinsert
  split
  · exact ⟨Or.inl, fun h => h.elim id (· ▸ ‹a ∈ l›)⟩
  · simp

theorem mem_serase {a x : α} {l : List α} : x ∈ serase a l ↔ x ∈ l ∧ x ≠ a := by
  simp [serase, List.mem_filter]

theorem serase_sinsert {a : α} {l : List α} (h : a ∉ l) : serase a (sinsert a l) = l := by
  unfold serase sinsert
  rw [if_neg h, List.filter_append]
  simp
  intro x hx hxa; exact h (hxa ▸ hx)

end sset

end Hidi
