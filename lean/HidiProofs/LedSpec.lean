/-
  With checked writes every pass of `Hidi.Led.frame` is a list of writes applied to the blank frame (`frame_eq`), and the
  colour of an LED is that of the last write to it (`applyW_get`).  From this a declarative description of the colour of
  every LED (`frame_led`: `highlight` over the last write of the earlier passes).
-/
import HidiProofs.AList
import Hidi.Led
namespace Hidi.LedSpec
open Hidi Hidi.Led

abbrev W := Nat × RGB

def applyW (l : List RGB) (ws : List W) : List RGB := ws.foldl (fun l w => l.set w.1 w.2) l

def lastW : List W → Nat → Option RGB
  | [], _ => none
  | w :: r, i => (lastW r i).or (if w.1 = i then some w.2 else none)

@[simp] theorem length_applyW (l : List RGB) (ws : List W) : (applyW l ws).length = l.length := by
  induction ws generalizing l with
  | nil => rfl
  | cons w r ih => exact (ih _).trans (List.length_set ..)

theorem applyW_append (l : List RGB) (a b : List W) : applyW l (a ++ b) = applyW (applyW l a) b :=
  List.foldl_append ..

theorem lastW_append (a b : List W) (i : Nat) : lastW (a ++ b) i = (lastW b i).or (lastW a i) := by
  induction a with
  | nil => simp [lastW]
  | cons w r ih => simp only [List.cons_append, lastW, ih, Option.or_assoc]

theorem applyW_get (l : List RGB) (ws : List W) (i : Nat) (hi : i < l.length) :
    (applyW l ws)[i]? = some ((lastW ws i).getD l[i]) := by
  induction ws generalizing l with
  | nil => simp [applyW, lastW, hi]
  | cons w r ih =>
    have e : applyW l (w :: r) = applyW (l.set w.1 w.2) r := rfl
    rw [e, ih (l.set w.1 w.2) (by simpa using hi)]
    simp only [lastW]
    cases hr : lastW r i with
    | some c => simp
    | none =>
      simp only [Option.none_or, Option.getD_none]
      by_cases hw : w.1 = i
      · subst hw; simp
      · simp [hw]

theorem lastW_flatMap {α} (g : α → List W) (L : List α) (i : Nat) :
    lastW (L.flatMap g) i = L.reverse.findSome? (fun x => lastW (g x) i) := by
  induction L with
  | nil => rfl
  | cons x r ih =>
    rw [List.flatMap_cons, lastW_append, ih, List.reverse_cons, List.findSome?_append, List.findSome?_singleton]

theorem lastW_uniform (ws : List W) (c : RGB) (h : ∀ w ∈ ws, w.2 = c) (i : Nat) :
    lastW ws i = if ws.any (fun w => w.1 = i) then some c else none := by
  induction ws with
  | nil => rfl
  | cons w r ih =>
    simp only [lastW, ih (fun x hx => h x (List.mem_cons_of_mem _ hx)), List.any_cons, ← h w List.mem_cons_self]
    by_cases h1 : r.any (fun w => decide (w.1 = i)) = true <;> by_cases h2 : w.1 = i <;> simp [h1, h2]

/-- the write of `c` to an LED that may not exist -/
def wOpt (o : Option Nat) (c : RGB) : List W := (o.map (·, c)).toList

theorem lastW_wOpt (o : Option Nat) (c : RGB) (i : Nat) : lastW (wOpt o c) i = if o = some i then some c else none := by
  cases o <;> simp [wOpt, lastW]

theorem any_wOpt (o : Option Nat) (c : RGB) (i : Nat) : (wOpt o c).any (fun w => w.1 = i) = decide (o = some i) := by
  cases o <;> simp [wOpt]

theorem foldl_writes {α} {n : Nat} (g : Frame → α → Frame) (w : α → List W)
    (hg : ∀ a (l : List RGB), l.length = n → g (.ok l) a = .ok (applyW l (w a))) (L : List α) :
    ∀ (l : List RGB), l.length = n → L.foldl g (.ok l) = .ok (applyW l (L.flatMap w)) := by
  induction L with
  | nil => intro l _; rfl
  | cons a r ih =>
    intro l hl
    simp only [List.foldl_cons, List.flatMap_cons, applyW_append]
    rw [hg a l hl, ih _ (by simpa using hl)]

theorem setAt_ok {l : List RGB} {i : Nat} (hi : i < l.length) (c : RGB) : setAt (.ok l) i c = .ok (applyW l [(i, c)]) := by
  simp [setAt, hi, applyW]

theorem indexMap_spec (leds : List String) (k i : Nat) (h : alookup k (indexMap leds) = some i) :
    ∃ name, leds[i]? = some name ∧ ledKey name = some k := by
  revert k i
  unfold indexMap
  refine List.foldlRecOn (motive := fun m => ∀ k i, alookup k m = some i → ∃ name, leds[i]? = some name ∧ ledKey name = some k)
    _ _ (fun k i h => by simp [alookup] at h) fun m hm p hp k i hk => ?_
  split at hk
  · rename_i kk hkk
    by_cases e : k = kk
    · subst e
      rw [alookup_ainsert_self] at hk
      simp only [Option.some.injEq] at hk; subst hk
      exact ⟨p.1, List.mem_zipIdx_iff_getElem?.mp hp, hkk⟩
    · rw [alookup_ainsert_ne e] at hk; exact hm k i hk
  · exact hm k i hk

theorem indexMap_lt (leds : List String) (k i : Nat) (h : alookup k (indexMap leds) = some i) : i < leds.length := by
  obtain ⟨_, e, -⟩ := indexMap_spec leds k i h
  exact (List.getElem?_eq_some_iff.mp e).1

theorem indexMap_inj (leds : List String) (k1 k2 i : Nat) (h1 : alookup k1 (indexMap leds) = some i)
    (h2 : alookup k2 (indexMap leds) = some i) : k1 = k2 := by
  obtain ⟨n1, e1, g1⟩ := indexMap_spec leds k1 i h1
  obtain ⟨n2, e2, g2⟩ := indexMap_spec leds k2 i h2
  rw [e1] at e2
  simp only [Option.some.injEq] at e2; subst e2
  rw [g1] at g2
  simpa using g2

theorem nameToIndex_spec (leds : List String) (name : String) (j : Nat) (h : alookup name (nameToIndex leds) = some j) :
    leds[j]? = some name := by
  revert name j
  unfold nameToIndex
  refine List.foldlRecOn (motive := fun m => ∀ name j, alookup name m = some j → leds[j]? = some name)
    _ _ (fun k i h => by simp [alookup] at h) fun m hm p hp name j hk => ?_
  by_cases e : name = p.1
  · subst e
    rw [alookup_ainsert_self] at hk
    simp only [Option.some.injEq] at hk; subst hk
    exact List.mem_zipIdx_iff_getElem?.mp hp
  · rw [alookup_ainsert_ne e] at hk; exact hm name j hk

theorem nameToIndex_lt (leds : List String) (k : String) (i : Nat) (h : alookup k (nameToIndex leds) = some i) :
    i < leds.length :=
  (List.getElem?_eq_some_iff.mp (nameToIndex_spec leds k i h)).1

abbrev blank (d : Dev) (leds : List String) : List RGB := List.replicate leds.length d.cfg.colors.unavailable

def stripW (devName : String) (leds : List String) : List W :=
  (stripLeds devName).flatMap fun name => wOpt (alookup name (nameToIndex leds)) off

theorem frameStrip_eq (d : Dev) (devName : String) (leds : List String) :
    frameStrip true d devName leds = .ok (applyW (blank d leds) (stripW devName leds)) := by
  refine foldl_writes (n := leds.length) _ _ (fun name l hl => ?_) _ _ (by simp)
  simp only [if_true]
  cases h : alookup name (nameToIndex leds) with
  | none => rfl
  | some i => exact setAt_ok (hl ▸ nameToIndex_lt leds name i h) off

def actionLed (cfg : Config) (leds : List String) (a : Action) : Option Nat :=
  (actionCode cfg a).bind (fun code => alookup code (indexMap leds))

def actionW (cfg : Config) (leds : List String) (ps : List (Action × RGB)) : List W :=
  ps.flatMap fun p => wOpt (actionLed cfg leds p.1) p.2

/-- one checked action paint is one optional write (out of range, `List.set` writes nothing either) -/
theorem paintAction_eq (cfg : Config) (leds : List String) (l : List RGB) (a : Action) (c : RGB) :
    paintAction true cfg (indexMap leds) (.ok l) a c = .ok (applyW l (wOpt (actionLed cfg leds a) c)) := by
  unfold paintAction actionLed
  simp only [if_true]
  cases actionCode cfg a with
  | none => rfl
  | some code =>
    simp only [Option.bind_some]
    cases alookup code (indexMap leds) with
    | none => rfl
    | some i =>
      by_cases hi : i < l.length
      · simp [hi, applyW, wOpt]
      · simp [hi, applyW, wOpt, List.set_eq_of_length_le (Nat.le_of_not_lt hi)]

theorem framePre_eq (d : Dev) (devName : String) (leds : List String) :
    framePre true d devName leds =
      .ok (applyW (blank d leds) (stripW devName leds ++ actionW d.cfg leds (actionPaints d))) := by
  unfold framePre
  rw [frameStrip_eq, applyW_append]
  exact foldl_writes (n := leds.length) _ _ (fun p l _ => paintAction_eq d.cfg leds l p.1 p.2) _ _ (by simp)

def wKey (im : List (Nat × Nat)) (m : Mapping) (shifted : RGB × RGB × RGB) (offset : Int) (p : (Sub × Code) × Key) : List W :=
  let x : Int := (p.2.note : Int) + offset
  if x < 0 ∨ x > 127 then [] else wOpt (alookup p.1.2 im) (classColor m shifted x.toNat)

/-- the one write of a mapped key, to the LED of its code, if its transposed note is a MIDI note -/
theorem lastW_wKey (im : List (Nat × Nat)) (m : Mapping) (shifted : RGB × RGB × RGB) (offset : Int) (p : (Sub × Code) × Key)
    (i : Nat) :
    lastW (wKey im m shifted offset p) i =
      if alookup p.1.2 im = some i then
        (let x : Int := (p.2.note : Int) + offset
         if x < 0 ∨ x > 127 then none else some (classColor m shifted x.toNat))
      else none := by
  unfold wKey
  simp only
  split
  · rw [ite_self]; rfl
  · exact lastW_wOpt _ _ i

def keyW (d : Dev) (leds : List String) (shifted : RGB × RGB × RGB) (m : Mapping) : List W :=
  (m.midi.filter (fun p => p.1.1 = "")).flatMap (wKey (indexMap leds) m shifted (d.semitone + d.octave * 12))

def baseW (d : Dev) (devName : String) (leds : List String) (shifted : RGB × RGB × RGB) (m : Mapping) : List W :=
  stripW devName leds ++ actionW d.cfg leds (actionPaints d) ++ keyW d leds shifted m

/-- the base colour of an LED: the keyboard mapping over the action keys over the strip -/
theorem lastW_baseW (d : Dev) (devName : String) (leds : List String) (shifted : RGB × RGB × RGB) (m : Mapping) (i : Nat) :
    lastW (baseW d devName leds shifted m) i =
      (lastW (keyW d leds shifted m) i).or
        ((lastW (actionW d.cfg leds (actionPaints d)) i).or (lastW (stripW devName leds) i)) := by
  rw [baseW, lastW_append, lastW_append]

theorem frameBase_eq (d : Dev) (devName : String) (leds : List String) (shifted : RGB × RGB × RGB) (m : Mapping) :
    frameBase true d devName leds shifted m = .ok (applyW (blank d leds) (baseW d devName leds shifted m)) := by
  unfold frameBase baseW keyW
  simp only [framePre_eq, applyW_append]
  refine foldl_writes (n := leds.length) _ _ (fun q l hl => ?_) _ _ ?_
  · unfold wKey
    cases hq : alookup q.1.2 (indexMap leds) with
    | none => simp only; split <;> rfl
    | some j =>
      simp only
      split
      · rfl
      · exact setAt_ok (hl ▸ indexMap_lt leds _ j hq) _
  · simp

def wNote (im : List (Nat × Nat)) (m : Mapping) (note : Nat) (c : RGB) : List W :=
  (keysWithNote m note).flatMap fun code => wOpt (alookup code im) c

theorem paintNote_eq (leds : List String) (m : Mapping) (note : Nat) (c : RGB) (l : List RGB) (hl : l.length = leds.length) :
    paintNote (indexMap leds) m (.ok l) note c = .ok (applyW l (wNote (indexMap leds) m note c)) := by
  refine foldl_writes (n := leds.length) _ _ (fun code l hl => ?_) _ l hl
  cases h : alookup code (indexMap leds) with
  | none => rfl
  | some i => exact setAt_ok (hl ▸ indexMap_lt leds code i h) c

def notesW {α} (im : List (Nat × Nat)) (m : Mapping) (g : α → Nat) (c : RGB) (L : List α) : List W :=
  L.flatMap fun p => wNote im m (g p) c

theorem foldl_paintNote {α} (leds : List String) (m : Mapping) (g : α → Nat) (c : RGB) (L : List α) (l : List RGB)
    (hl : l.length = leds.length) :
    L.foldl (fun f p => paintNote (indexMap leds) m f (g p) c) (.ok l) = .ok (applyW l (notesW (indexMap leds) m g c L)) :=
  foldl_writes (n := leds.length) _ _ (fun p l hl => paintNote_eq leds m (g p) c l hl) L l hl

def hiW (d : Dev) (leds : List String) (m : Mapping) : List W :=
  let im := indexMap leds
  let off : Int := d.semitone + d.octave * 12
  (List.range 16).reverse.flatMap (fun ch => notesW im m (fun (p : Nat × Nat) => baseOf p.2 off) (chanColor ch) (extOn d ch off)) ++
    notesW im m (fun (p : Nat × Nat) => baseOf p.2 off) d.cfg.colors.activeExternal (extOn d d.channel off) ++
    notesW im m (fun (p : Code × (Nat × Nat)) => baseOf p.2.1 off) d.cfg.colors.active (ownOn d off)

theorem frame_eq (d : Dev) (devName : String) (leds : List String) (shifted : RGB × RGB × RGB) (m : Mapping)
    (hm : d.curMap = some m) :
    frame true d devName leds shifted = .ok (applyW (blank d leds) (baseW d devName leds shifted m ++ hiW d leds m)) := by
  unfold frame frameExt hiW
  simp only [hm, frameBase_eq, applyW_append]
  rw [foldl_writes (n := leds.length) _ _ (fun ch l hl => foldl_paintNote leds m _ (chanColor ch) _ l hl) _ _ (by simp),
    foldl_paintNote _ _ _ _ _ _ (by simp), foldl_paintNote _ _ _ _ _ _ (by simp)]

def lit {α} (im : List (Nat × Nat)) (m : Mapping) (g : α → Nat) (L : List α) (i : Nat) : Bool :=
  L.any (fun p => (keysWithNote m (g p)).any (fun code => alookup code im = some i))

theorem lit_of_mem {α} {im : List (Nat × Nat)} {m : Mapping} {g : α → Nat} {L : List α} {i : Nat} {p : α} (hp : p ∈ L)
    {code : Nat} (hc : code ∈ keysWithNote m (g p)) (hi : alookup code im = some i) : lit im m g L i = true :=
  List.any_eq_true.mpr ⟨p, hp, List.any_eq_true.mpr ⟨code, hc, by simpa using hi⟩⟩

/-- an LED that belongs to no key of the mapping is never lit -/
theorem lit_false_of_no_key {α} (im : List (Nat × Nat)) (m : Mapping) (g : α → Nat) (L : List α) (i : Nat)
    (hno : ∀ q ∈ m.midi, q.1.1 = "" → alookup q.1.2 im ≠ some i) : lit im m g L i = false := by
  unfold lit
  refine List.any_eq_false.mpr fun p _ => ?_
  rw [Bool.not_eq_true]
  refine List.any_eq_false.mpr fun code hcode => ?_
  obtain ⟨q, hq, rfl⟩ := List.mem_map.mp hcode
  have hq' : q ∈ m.midi ∧ q.1.1 = "" ∧ q.2.note = g p := by simpa using hq
  simpa using hno q hq'.1 hq'.2.1

theorem lastW_notesW {α} (im : List (Nat × Nat)) (m : Mapping) (g : α → Nat) (c : RGB) (L : List α) (i : Nat) :
    lastW (notesW im m g c L) i = if lit im m g L i then some c else none := by
  rw [lastW_uniform _ c]
  · congr 2
    simp [notesW, wNote, lit, List.any_flatMap, any_wOpt]
  · simp only [notesW, wNote, wOpt, List.mem_flatMap, Option.mem_toList, Option.map_eq_some_iff]
    rintro w ⟨_, -, _, -, _, -, rfl⟩; rfl

/-- the colour of LED `i` given its colour `base` in the base frame -/
def highlight (d : Dev) (leds : List String) (m : Mapping) (base : RGB) (i : Nat) : RGB :=
  let im := indexMap leds
  let off : Int := d.semitone + d.octave * 12
  if lit im m (fun (p : Code × (Nat × Nat)) => baseOf p.2.1 off) (ownOn d off) i then d.cfg.colors.active
  else if lit im m (fun (p : Nat × Nat) => baseOf p.2 off) (extOn d d.channel (d.semitone + d.octave * 12)) i then
    d.cfg.colors.activeExternal
  else match (List.range 16).find? (fun ch =>
      lit im m (fun (p : Nat × Nat) => baseOf p.2 off) (extOn d ch (d.semitone + d.octave * 12)) i) with
    | some ch => chanColor ch
    | none => base

theorem findSome_ite {α β} (P : α → Bool) (c : α → β) (L : List α) :
    L.findSome? (fun x => if P x then some (c x) else none) = (L.find? P).map c := by
  induction L with
  | nil => rfl
  | cons x r ih => cases h : P x <;> simp [h, ih]

theorem lastW_hiW (d : Dev) (leds : List String) (m : Mapping) (base : RGB) (i : Nat) :
    (lastW (hiW d leds m) i).getD base = highlight d leds m base i := by
  unfold hiW highlight
  simp only [lastW_append, lastW_flatMap, lastW_notesW, List.reverse_reverse, findSome_ite]
  split
  · rfl
  · split
    · rfl
    · cases List.find? _ (List.range 16) <;> rfl

theorem lastW_flatMap_none {α} {g : α → List W} {L : List α} {i : Nat} (h : ∀ x ∈ L, lastW (g x) i = none) :
    lastW (L.flatMap g) i = none := by
  rw [lastW_flatMap, List.findSome?_eq_none_iff]
  exact fun x hx => h x (List.mem_reverse.mp hx)

theorem lastW_append_getD (a b : List W) (i : Nat) (c : RGB) :
    (lastW (a ++ b) i).getD c = (lastW b i).getD ((lastW a i).getD c) := by
  rw [lastW_append]; cases lastW b i <;> rfl

theorem blank_get (d : Dev) {leds : List String} {i : Nat} (hi : i < leds.length) (ws : List W) :
    (applyW (blank d leds) ws)[i]? = some ((lastW ws i).getD d.cfg.colors.unavailable) := by
  rw [applyW_get _ _ i (by simpa using hi), List.getElem_replicate]

theorem lastW_stripW_none {devName : String} {leds : List String} {i : Nat}
    (h : ∀ name ∈ stripLeds devName, leds[i]? ≠ some name) : lastW (stripW devName leds) i = none :=
  lastW_flatMap_none fun name hn => by
    rw [lastW_wOpt, if_neg]
    exact fun e => h name hn (nameToIndex_spec leds name i e)

theorem actionLed_lt {cfg : Config} {leds : List String} {a : Action} {i : Nat} (hi : actionLed cfg leds a = some i) :
    i < leds.length := by
  obtain ⟨k, -, hk⟩ := Option.bind_eq_some_iff.mp hi
  exact indexMap_lt leds k i hk

/-- two different actions are never bound to the same key (the action table is a Go map keyed by key code) -/
theorem actionCode_inj (cfg : Config) (hn : (akeys cfg.actions).Nodup) (a b : Action) (k : Nat)
    (ha : actionCode cfg a = some k) (hb : actionCode cfg b = some k) : a = b := by
  unfold actionCode at ha hb
  obtain ⟨pa, hpa, rfl⟩ := Option.map_eq_some_iff.mp ha
  obtain ⟨pb, hpb, hk⟩ := Option.map_eq_some_iff.mp hb
  have ea : pa.2 = a := by simpa using List.find?_some hpa
  have eb : pb.2 = b := by simpa using List.find?_some hpb
  rw [← ea, ← eb, snd_unique hn (List.mem_of_find?_eq_some hpa) (List.mem_of_find?_eq_some hpb) hk.symm]

theorem actionLed_inj {cfg : Config} {leds : List String} (hn : (akeys cfg.actions).Nodup) {a b : Action} {i : Nat}
    (ha : actionLed cfg leds a = some i) (hb : actionLed cfg leds b = some i) : a = b := by
  obtain ⟨k1, h1, g1⟩ := Option.bind_eq_some_iff.mp ha
  obtain ⟨k2, h2, g2⟩ := Option.bind_eq_some_iff.mp hb
  cases indexMap_inj leds k1 k2 i g1 g2
  exact actionCode_inj cfg hn a b k1 h1 h2

def lastPaint (ps : List (Action × RGB)) (a : Action) : Option RGB :=
  match ps with
  | [] => none
  | p :: r => (lastPaint r a).or (if p.1 = a then some p.2 else none)

theorem lastPaint_append (a b : List (Action × RGB)) (x : Action) :
    lastPaint (a ++ b) x = (lastPaint b x).or (lastPaint a x) := by
  induction a with
  | nil => simp [lastPaint]
  | cons p r ih => simp only [List.cons_append, lastPaint, ih, Option.or_assoc]

theorem lastPaint_ite (c : Prop) [Decidable c] (p : Action × RGB) (x : Action) :
    lastPaint (if c then [p] else []) x = if c ∧ p.1 = x then some p.2 else none := by
  by_cases hc : c <;> by_cases hp : p.1 = x <;> simp [hc, hp, lastPaint]

theorem lastW_actionW {cfg : Config} {leds : List String} (hn : (akeys cfg.actions).Nodup) {a : Action} {i : Nat}
    (hi : actionLed cfg leds a = some i) (ps : List (Action × RGB)) :
    lastW (actionW cfg leds ps) i = lastPaint ps a := by
  induction ps with
  | nil => rfl
  | cons p r ih =>
    have e : actionLed cfg leds p.1 = some i ↔ p.1 = a := ⟨fun h => actionLed_inj hn h hi, fun h => h ▸ hi⟩
    unfold actionW at ih ⊢
    simp only [List.flatMap_cons, lastW_append, ih, lastPaint, lastW_wOpt, e]

theorem lastW_actionW_none {cfg : Config} {leds : List String} {i : Nat} (h : ∀ a, actionLed cfg leds a ≠ some i)
    (ps : List (Action × RGB)) : lastW (actionW cfg leds ps) i = none :=
  lastW_flatMap_none fun p _ => by rw [lastW_wOpt, if_neg (h p.1)]

/-- **action keys**: in the frame before the keyboard mapping is painted, the LED of the key an action is bound to shows
    the colour of the last paint of that action, or, if the action is never painted, what the strip pass left there -/
theorem framePre_action (d : Dev) (devName : String) (leds : List String) (hn : (akeys d.cfg.actions).Nodup)
    (a : Action) (i : Nat) (hi : actionLed d.cfg leds a = some i) :
    ∃ strip pre, frameStrip true d devName leds = .ok strip ∧ framePre true d devName leds = .ok pre ∧
      strip.length = leds.length ∧ pre.length = leds.length ∧
      pre[i]? = some ((lastPaint (actionPaints d) a).getD strip[i]!) := by
  have hil : i < (applyW (blank d leds) (stripW devName leds)).length := by simpa using actionLed_lt hi
  refine ⟨_, _, frameStrip_eq .., framePre_eq .., by simp, by simp, ?_⟩
  rw [applyW_append, applyW_get _ _ i hil, lastW_actionW hn hi,
    getElem!_pos (applyW (blank d leds) (stripW devName leds)) i hil]

theorem lastW_keyW_none {d : Dev} {leds : List String} {shifted : RGB × RGB × RGB} {m : Mapping} {i : Nat}
    (hno : ∀ q ∈ m.midi, q.1.1 = "" → alookup q.1.2 (indexMap leds) ≠ some i) : lastW (keyW d leds shifted m) i = none :=
  lastW_flatMap_none fun q hq => by
    have hq' : q ∈ m.midi ∧ q.1.1 = "" := by simpa using hq
    rw [lastW_wKey, if_neg (hno q hq'.1 hq'.2)]

theorem lastW_flatMap_unique {α} {g : α → List W} {L : List α} {p : α} {i : Nat} (hp : p ∈ L)
    (h : ∀ q ∈ L, q ≠ p → lastW (g q) i = none) : lastW (L.flatMap g) i = lastW (g p) i := by
  induction L with
  | nil => cases hp
  | cons x r ih =>
    rw [List.flatMap_cons, lastW_append]
    by_cases hr : p ∈ r
    · rw [ih hr fun q hq => h q (List.mem_cons_of_mem _ hq)]
      by_cases e : x = p
      · rw [e, Option.or_self]
      · rw [h x List.mem_cons_self e, Option.or_none]
    · obtain rfl : p = x := (List.mem_cons.mp hp).resolve_right hr
      rw [lastW_flatMap_none fun q hq => h q (List.mem_cons_of_mem _ hq) fun e => hr (e ▸ hq), Option.none_or]

/-- **pitch class**: the only write of the keyboard mapping to the LED of a mapped key is the class colour of its
    transposed note, when that is a MIDI note -/
theorem lastW_keyW {d : Dev} {leds : List String} {shifted : RGB × RGB × RGB} {m : Mapping} (hnd : (akeys m.midi).Nodup)
    {p : (Sub × Code) × Key} (hp : p ∈ m.midi) (hsub : p.1.1 = "") {i : Nat} (hi : alookup p.1.2 (indexMap leds) = some i) :
    lastW (keyW d leds shifted m) i =
      let x : Int := (p.2.note : Int) + (d.semitone + d.octave * 12)
      if x < 0 ∨ x > 127 then none else some (classColor m shifted x.toNat) := by
  unfold keyW
  rw [lastW_flatMap_unique (p := p) (by simp [hp, hsub])]
  · rw [lastW_wKey, if_pos hi]
  · intro q hq hne
    have hq' : q ∈ m.midi ∧ q.1.1 = "" := by simpa using hq
    rw [lastW_wKey, if_neg]
    intro hqi
    have hk : q.1 = p.1 := Prod.ext (hq'.2.trans hsub.symm) (indexMap_inj leds _ _ _ hqi hi)
    exact hne (Prod.ext hk (snd_unique hnd hq'.1 hp hk))

theorem frameBase_other (d : Dev) (devName : String) (leds : List String) (shifted : RGB × RGB × RGB) (m : Mapping)
    (i : Nat) (hil : i < leds.length)
    (hno : ∀ q ∈ m.midi, q.1.1 = "" → alookup q.1.2 (indexMap leds) ≠ some i) :
    ∃ pre base, framePre true d devName leds = .ok pre ∧ frameBase true d devName leds shifted m = .ok base ∧
      pre.length = leds.length ∧ base.length = leds.length ∧ base[i]? = pre[i]? := by
  refine ⟨_, _, framePre_eq .., frameBase_eq .., by simp, by simp, ?_⟩
  rw [baseW, blank_get d hil, blank_get d hil, lastW_append_getD, lastW_keyW_none hno]; rfl

/-- **pitch class**: the LED of a mapped key shows, in the base frame, the class colour of its transposed note when
    that is a MIDI note, and otherwise what the pre-frame shows there -/
theorem frameBase_key (d : Dev) (devName : String) (leds : List String) (shifted : RGB × RGB × RGB) (m : Mapping)
    (hnd : (akeys m.midi).Nodup) (p : (Sub × Code) × Key) (hp : p ∈ m.midi) (hsub : p.1.1 = "")
    (i : Nat) (hi : alookup p.1.2 (indexMap leds) = some i) :
    ∃ pre base, framePre true d devName leds = .ok pre ∧ frameBase true d devName leds shifted m = .ok base ∧
      pre.length = leds.length ∧ base.length = leds.length ∧
      base[i]? = some (
        let x : Int := (p.2.note : Int) + (d.semitone + d.octave * 12)
        if x < 0 ∨ x > 127 then pre[i]! else classColor m shifted x.toNat) := by
  have hil : i < (applyW (blank d leds) (stripW devName leds ++ actionW d.cfg leds (actionPaints d))).length := by
    simpa using indexMap_lt leds _ i hi
  refine ⟨_, _, framePre_eq .., frameBase_eq .., by simp, by simp, ?_⟩
  rw [baseW, applyW_append, applyW_get _ _ i hil, lastW_keyW hnd hp hsub hi, getElem!_pos _ i hil]
  simp only
  split <;> rfl

/-- **unavailable**: the LED of a key that is bound to no action (and is not a strip LED) is in the 'unavailable' colour
    before the keyboard mapping is painted -/
theorem framePre_unavailable (d : Dev) (devName : String) (leds : List String) (i : Nat) (hi : i < leds.length)
    (hstrip : ∀ name ∈ stripLeds devName, leds[i]? ≠ some name) (hact : ∀ a, actionLed d.cfg leds a ≠ some i) :
    ∃ pre, framePre true d devName leds = .ok pre ∧ pre[i]? = some d.cfg.colors.unavailable := by
  refine ⟨_, framePre_eq .., ?_⟩
  rw [blank_get d hi, lastW_append, lastW_actionW_none hact, lastW_stripW_none hstrip]; rfl

/-- **every LED of every frame**: `highlight` over the last write of the earlier passes, over 'unavailable'
    (`C17_refinement` says the same with the base colour read off the base frame) -/
theorem frame_led (d : Dev) (devName : String) (leds : List String) (shifted : RGB × RGB × RGB) (m : Mapping)
    (hm : d.curMap = some m) {i : Nat} (hi : i < leds.length) {c : RGB}
    (hc : highlight d leds m ((lastW (baseW d devName leds shifted m) i).getD d.cfg.colors.unavailable) i = c) :
    ∃ l, frame true d devName leds shifted = .ok l ∧ l[i]? = some c := by
  refine ⟨_, frame_eq d devName leds shifted m hm, ?_⟩
  rw [blank_get d hi, lastW_append_getD, lastW_hiW, hc]

end Hidi.LedSpec
