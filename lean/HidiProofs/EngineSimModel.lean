/-
  HidiProofs.EngineSimModel — what an accepted configuration guarantees, and what `checkDoubleActions`, the action
  handlers and `handleKEYEvent` do (model-only facts): which fields an operation keeps (`Frame`, `Kept`), one equation
  per operation and per branch of the key handler, and what every key event does to a state inside `DInv` whatever the
  history (`handleKey_model`).
-/
import HidiProofs.PressRelease
namespace Hidi.EngineSim
open Hidi Hidi.Spec

theorem accepted_vel {cfg : Config} (h : Accepted cfg = true) : 1 ≤ u8 cfg.vel ∧ u8 cfg.vel ≤ 127 := by
  simp only [Accepted, Bool.and_eq_true, decide_eq_true_eq, Bool.decide_and] at h
  unfold u8; omega

theorem accepted_ch {cfg : Config} (h : Accepted cfg = true) : u8 (cfg.defCh - 1) < 16 := by
  simp only [Accepted, Bool.and_eq_true, decide_eq_true_eq, Bool.decide_and] at h
  unfold u8; omega

theorem accepted_defMap {cfg : Config} (h : Accepted cfg = true) : cfg.defMap < cfg.maps.length := by
  simp only [Accepted, Bool.and_eq_true, decide_eq_true_eq, Bool.decide_and] at h
  omega

theorem accepted_maps {cfg : Config} (h : Accepted cfg = true) : ∀ m ∈ cfg.maps, mappingOk m = true := by
  simp only [Accepted, Bool.and_eq_true, decide_eq_true_eq, Bool.decide_and, List.all_eq_true] at h
  exact h.1

theorem key_ok_of_lookup {cfg : Config} (hacc : Accepted cfg = true) {m : Mapping} (hm : m ∈ cfg.maps)
    {sc : Sub × Code} {k : Key} (hk : alookup sc m.midi = some k) : k.note ≤ 127 ∧ k.chOff ≤ 15 := by
  have := accepted_maps hacc m hm
  simp only [mappingOk, Bool.and_eq_true, decide_eq_true_eq, Bool.decide_and, List.all_eq_true] at this
  have := this.1 _ (alookup_mem hk)
  simpa [keyOk] using this

theorem analog_ok_of_lookup {cfg : Config} (hacc : Accepted cfg = true) {m : Mapping} (hm : m ∈ cfg.maps)
    {k : Sub × Code} {a : Analog} (ha : alookup k m.analog = some a) : analogOk a = true := by
  have := accepted_maps hacc m hm
  simp only [mappingOk, decide_eq_true_eq, List.all_eq_true] at this
  exact this.2 _ (alookup_mem ha)

structure Frame (d d' : Dev) : Prop where
  cfg : d'.cfg = d.cfg
  velocity : d'.velocity = d.velocity
  noteTr : d'.noteTr = d.noteTr
  anaTr : d'.anaTr = d.anaTr
  counter : d'.counter = d.counter
  actTr : d'.actTr = d.actTr
  keyTr : d'.keyTr = d.keyTr
  dead : d'.dead = d.dead

theorem Frame.refl (d : Dev) : Frame d d := ⟨rfl, rfl, rfl, rfl, rfl, rfl, rfl, rfl⟩

theorem Frame.trans {a b c : Dev} (h1 : Frame a b) (h2 : Frame b c) : Frame a c :=
  ⟨h2.cfg.trans h1.cfg, h2.velocity.trans h1.velocity, h2.noteTr.trans h1.noteTr, h2.anaTr.trans h1.anaTr,
   h2.counter.trans h1.counter, h2.actTr.trans h1.actTr, h2.keyTr.trans h1.keyTr, h2.dead.trans h1.dead⟩

theorem DInv.frame {cfg : Config} {d d' : Dev} (hd : DInv cfg d) (hf : Frame d d') (hch : d'.channel < 16)
    (hmap : d'.mapping < cfg.maps.length) : DInv cfg d' :=
  ⟨hf.cfg.trans hd.cfg_eq, hf.dead.trans hd.dead, hf.anaTr.trans hd.ana, hch, hmap, hf.velocity.trans hd.vel, trivial,
   trivial, by rw [hf.noteTr]; exact hd.wf⟩

theorem wrap8_range (x : Int) : -128 ≤ wrap8 x ∧ wrap8 x ≤ 127 := by unfold wrap8; omega

/-- `d'` plays like `d`: it may differ in the key and action trackers, `learning`, `multi`, `ext`, `lastAna`, `ccZeroed` -/
structure Kept (d d' : Dev) : Prop where
  cfg : d'.cfg = d.cfg
  octave : d'.octave = d.octave
  semitone : d'.semitone = d.semitone
  channel : d'.channel = d.channel
  velocity : d'.velocity = d.velocity
  mapping : d'.mapping = d.mapping
  noteTr : d'.noteTr = d.noteTr
  anaTr : d'.anaTr = d.anaTr
  counter : d'.counter = d.counter
  dead : d'.dead = d.dead

theorem Kept.refl (d : Dev) : Kept d d := ⟨rfl, rfl, rfl, rfl, rfl, rfl, rfl, rfl, rfl, rfl⟩

theorem Kept.trans {a b c : Dev} (h1 : Kept a b) (h2 : Kept b c) : Kept a c :=
  ⟨h2.cfg.trans h1.cfg, h2.octave.trans h1.octave, h2.semitone.trans h1.semitone, h2.channel.trans h1.channel,
   h2.velocity.trans h1.velocity, h2.mapping.trans h1.mapping, h2.noteTr.trans h1.noteTr, h2.anaTr.trans h1.anaTr,
   h2.counter.trans h1.counter, h2.dead.trans h1.dead⟩

theorem Kept.ofDev {d d' : Dev} (h : Kept d d') : StObs.ofDev d' = StObs.ofDev d := by
  simp only [StObs.ofDev, h.octave, h.semitone, h.channel, h.mapping, h.noteTr, h.anaTr]

theorem Kept.dinv {cfg : Config} {d d' : Dev} (h : Kept d d') (hd : DInv cfg d) : DInv cfg d' :=
  ⟨h.cfg.trans hd.cfg_eq, h.dead.trans hd.dead, h.anaTr.trans hd.ana, h.channel ▸ hd.ch, h.mapping ▸ hd.map,
   h.velocity.trans hd.vel, trivial, trivial, h.noteTr ▸ hd.wf⟩

theorem Kept.core {d d' : Dev} {snd : List (Nat × Nat)} (h : Kept d d') (hc : Core d snd) : Core d' snd := by
  refine ⟨h.noteTr ▸ hc.nodup, fun ch n => ?_, h.noteTr ▸ hc.snd⟩
  have := hc.cnt ch n
  unfold Dev.count at this ⊢
  rw [h.noteTr, h.counter]; exact this

def withStateKey (d : Dev) (k : Int × Int × Nat × Nat) : Dev :=
  { d with octave := k.1, semitone := k.2.1, channel := k.2.2.1, mapping := k.2.2.2 }

/-- the pair `checkDoubleActions` acts on: the first complete one, once two actions are tracked -/
def dblPair (acts : List Action) : Option (Action × Action) :=
  if acts.length > 1 then (completePairs acts).head? else none

theorem checkDouble_eq (d : Dev) :
    d.checkDouble = match dblPair d.actTr with
      | none => (d, false)
      | some p => (withStateKey d (resetEffect (StObs.ofDev d) p), true) := by
  unfold Dev.checkDouble dblPair completePairs pairs
  by_cases h0 : d.actTr.length > 1
  · rw [if_pos h0, if_pos h0]
    -- the tests come in the order of `pairs`: a pair whose test holds is the head of what is left of the filtered list,
    -- one whose test fails drops out of it
    iterate 4
      refine iteInduction (motive := (· = _)) (fun h => by rw [List.filter_cons_of_pos (by simpa using h)]; rfl) fun h => ?_
      rw [List.filter_cons_of_neg (by simpa using h)]
    rfl
  · rw [if_neg h0, if_neg h0]

theorem dblPair_isSome (acts : List Action) :
    (dblPair acts).isSome = true ↔ acts.length > 1 ∧ completePairs acts ≠ [] := by
  unfold dblPair
  split <;> simp [*, List.isSome_head?]

theorem resetEffect_bounds (s : StObs) (p : Action × Action) :
    ((resetEffect s p).2.2.1 = s.ch ∨ (resetEffect s p).2.2.1 = 0) ∧
    ((resetEffect s p).2.2.2 = s.map ∨ (resetEffect s p).2.2.2 = 0) := by
  obtain ⟨a, b⟩ := p
  cases a <;> simp [resetEffect]

theorem checkDouble_frame (d : Dev) : Frame d d.checkDouble.1 := by
  rw [checkDouble_eq]; split <;> exact ⟨rfl, rfl, rfl, rfl, rfl, rfl, rfl, rfl⟩

theorem checkDouble_channel (d : Dev) : d.checkDouble.1.channel = d.channel ∨ d.checkDouble.1.channel = 0 := by
  rw [checkDouble_eq]; split
  · exact Or.inl rfl
  · exact (resetEffect_bounds _ _).1

theorem checkDouble_mapping (d : Dev) : d.checkDouble.1.mapping = d.mapping ∨ d.checkDouble.1.mapping = 0 := by
  rw [checkDouble_eq]; split
  · exact Or.inl rfl
  · exact (resetEffect_bounds _ _).2

theorem checkDouble_dinv {cfg : Config} {d : Dev} (hd : DInv cfg d) : DInv cfg d.checkDouble.1 := by
  have hc := hd.ch
  have hm := hd.map
  apply hd.frame (checkDouble_frame d)
  · rcases checkDouble_channel d with h | h <;> omega
  · rcases checkDouble_mapping d with h | h <;> omega

theorem checkDouble_dbl (d : Dev) :
    d.checkDouble.2 = true ↔ d.actTr.length > 1 ∧ completePairs d.actTr ≠ [] := by
  rw [← dblPair_isSome, checkDouble_eq]; split <;> simp [*]

theorem checkDouble_false {d : Dev} (h : d.checkDouble.2 = false) : d.checkDouble.1 = d := by
  rw [checkDouble_eq] at h ⊢; split at h
  · simp [*]
  · cases h

theorem checkDouble_one {d : Dev} {p : Action × Action} (h : d.checkDouble.2 = true)
    (hp : completePairs d.actTr = [p]) :
    stateKeyOf (StObs.ofDev d.checkDouble.1) = resetEffect (StObs.ofDev d) p := by
  have h1 : dblPair d.actTr = some p := by
    have := ((checkDouble_dbl d).mp h).1
    simp [dblPair, this, hp]
  rw [checkDouble_eq, h1]; rfl

def pressStateKey (d : Dev) : Action → Int × Int × Nat × Nat
  | .octaveUp => (d.octave + 1, d.semitone, d.channel, d.mapping)
  | .octaveDown => (d.octave - 1, d.semitone, d.channel, d.mapping)
  | .semitoneUp => (d.octave, d.semitone + 1, d.channel, d.mapping)
  | .semitoneDown => (d.octave, d.semitone - 1, d.channel, d.mapping)
  | .channelUp => (d.octave, d.semitone, if d.channel ≠ 15 then (d.channel + 1) % 256 else d.channel, d.mapping)
  | .channelDown => (d.octave, d.semitone, if d.channel ≠ 0 then d.channel - 1 else d.channel, d.mapping)
  | .mappingUp => (d.octave, d.semitone, d.channel,
      if (d.mapping : Int) ≠ (d.cfg.maps.length : Int) - 1 then d.mapping + 1 else d.mapping)
  | .mappingDown => (d.octave, d.semitone, d.channel, if d.mapping ≠ 0 then d.mapping - 1 else d.mapping)
  | _ => (d.octave, d.semitone, d.channel, d.mapping)

theorem invokePress_eq (d : Dev) (a : Action) :
    d.invokePress a =
      ({ withStateKey d (pressStateKey d a) with
           learning := if a = .learning then true else d.learning, ext := if a = .panic then [] else d.ext },
       if a = .panic then panicOuts d.channel else []) := by
  unfold Dev.invokePress pressStateKey withStateKey
  cases a <;> simp only [reduceCtorEq, if_false, if_true] <;> (try split) <;> rfl

theorem invokePress_frame (d : Dev) (a : Action) : Frame d (d.invokePress a).1 := by
  rw [invokePress_eq]; exact ⟨rfl, rfl, rfl, rfl, rfl, rfl, rfl, rfl⟩

theorem invokePress_outs (d : Dev) (a : Action) :
    (d.invokePress a).2 = if a = .panic then panicOuts d.channel else [] := by
  rw [invokePress_eq]

theorem invokePress_stateKey (d : Dev) (a : Action) : stateKeyOf (StObs.ofDev (d.invokePress a).1) = pressStateKey d a := by
  rw [invokePress_eq]; rfl

/-- the device's arithmetic (`uint8` channel, Go `int` mapping index) is the specification's while the channel is below 16
    and the mapping index valid -/
theorem pressStateKey_eq {cfg : Config} {d : Dev} (hcfg : d.cfg = cfg) (hc : d.channel < 16)
    (hm : d.mapping < cfg.maps.length) (a : Action) : pressStateKey d a = actionEffect cfg (StObs.ofDev d) a := by
  cases a
  -- the four that step a bounded quantity: the tests differ (`≠ 15` against `< 15`, ...), the results agree in range.
  -- `StObs.ofDev` is unfolded only after the splits: `split` does not see through it in a `Decidable` instance
  case channelUp | channelDown | mappingUp | mappingDown =>
    simp only [pressStateKey, actionEffect, hcfg, Prod.mk.injEq] <;> split <;> (try split) <;>
      (simp only [StObs.ofDev, true_and, and_true] at * <;> omega)
  all_goals rfl

theorem invokePress_state {cfg : Config} {d : Dev} (hcfg : d.cfg = cfg) (hc : d.channel < 16)
    (hm : d.mapping < cfg.maps.length) (a : Action) :
    stateKeyOf (StObs.ofDev (d.invokePress a).1) = actionEffect cfg (StObs.ofDev d) a := by
  rw [invokePress_stateKey, pressStateKey_eq hcfg hc hm]

theorem actionEffect_bounds (cfg : Config) {s : StObs} (a : Action) (hc : s.ch < 16) (hm : s.map < cfg.maps.length) :
    (actionEffect cfg s a).2.2.1 < 16 ∧ (actionEffect cfg s a).2.2.2 < cfg.maps.length := by
  cases a
  case channelUp | channelDown | mappingUp | mappingDown =>
    simp only [actionEffect]; refine ⟨?_, ?_⟩ <;> (try split) <;> omega
  all_goals exact ⟨hc, hm⟩

theorem invokePress_dinv {cfg : Config} {d : Dev} (hd : DInv cfg d) (a : Action) : DInv cfg (d.invokePress a).1 := by
  have hk := invokePress_state hd.cfg_eq hd.ch hd.map a
  obtain ⟨h1, h2⟩ := actionEffect_bounds cfg (s := StObs.ofDev d) a hd.ch hd.map
  have e1 : (d.invokePress a).1.channel = _ := congrArg (·.2.2.1) hk
  have e2 : (d.invokePress a).1.mapping = _ := congrArg (·.2.2.2) hk
  exact hd.frame (invokePress_frame d a) (e1 ▸ h1) (e2 ▸ h2)

/-- the key tracker update at the start of `handleKEYEvent` -/
def kt (d : Dev) (code : Code) (val : Int) : Dev :=
  if val = 1 then { d with keyTr := sinsert code d.keyTr } else { d with keyTr := serase code d.keyTr }

/-- the tracker update of an action press -/
def withAct (d : Dev) (a : Action) : Dev := { d with actTr := sinsert a d.actTr }

def actPress (d : Dev) (a : Action) : Dev × List Out :=
  let d := { d with actTr := sinsert a d.actTr }
  if d.checkDouble.2 then (d.checkDouble.1, []) else d.checkDouble.1.invokePress a

def actRelease (d : Dev) (a : Action) : Dev :=
  let d := if a = .multinote then d.multinote else d
  let d := d.invokeRelease a
  { d with actTr := serase a d.actTr }

theorem kt_eq (d : Dev) (code : Code) (val : Int) :
    kt d code val = { d with keyTr := if val = 1 then sinsert code d.keyTr else serase code d.keyTr } := by
  unfold kt; split <;> rfl

theorem kt_kept (d : Dev) (code : Code) (val : Int) : Kept d (kt d code val) := by
  rw [kt_eq]; exact ⟨rfl, rfl, rfl, rfl, rfl, rfl, rfl, rfl, rfl, rfl⟩

theorem kt_writes (d : Dev) (code : Code) (val : Int) : kt d code val = { d with keyTr := (kt d code val).keyTr } := by
  rw [kt_eq]

theorem kt_keyTr (d : Dev) (code : Code) (val : Int) :
    (kt d code val).keyTr = if val = 1 then sinsert code d.keyTr else serase code d.keyTr := by
  rw [kt_eq]

theorem withAct_kept (d : Dev) (a : Action) : Kept d (withAct d a) := ⟨rfl, rfl, rfl, rfl, rfl, rfl, rfl, rfl, rfl, rfl⟩

/-- `Multinote`: the intervals of the tracked notes above the lowest one -/
def intervals (t : List (Code × (Nat × Nat))) : List Int :=
  match sortInts (t.map (fun p => (p.2.1 : Int))) with
  | mn :: r :: rest => (r :: rest).map (· - mn)
  | _ => []

theorem multinote_eq (d : Dev) : d.multinote = { d with multi := intervals d.noteTr } := by
  unfold Dev.multinote intervals
  simp only
  generalize sortInts _ = l
  rcases l with _ | ⟨mn, _ | ⟨r, rest⟩⟩ <;> rfl

theorem actRelease_eq (d : Dev) (a : Action) :
    actRelease d a = { d with multi := if a = .multinote then intervals d.noteTr else d.multi,
                              learning := if a = .learning then false else d.learning,
                              actTr := serase a d.actTr } := by
  unfold actRelease Dev.invokeRelease
  cases a <;> simp only [reduceCtorEq, if_true, if_false, multinote_eq]

theorem actRelease_kept (d : Dev) (a : Action) : Kept d (actRelease d a) := by
  rw [actRelease_eq]; exact ⟨rfl, rfl, rfl, rfl, rfl, rfl, rfl, rfl, rfl, rfl⟩

theorem actRelease_actTr (d : Dev) (a : Action) : (actRelease d a).actTr = serase a d.actTr := by rw [actRelease_eq]

theorem actRelease_keyTr (d : Dev) (a : Action) : (actRelease d a).keyTr = d.keyTr := by rw [actRelease_eq]

theorem actPress_eq (d : Dev) (a : Action) :
    actPress d a = if (withAct d a).checkDouble.2 = true then ((withAct d a).checkDouble.1, [])
      else (withAct d a).invokePress a := by
  unfold actPress withAct
  simp only []
  split
  · rfl
  · rename_i h
    rw [checkDouble_false (Bool.eq_false_iff.mpr h)]

theorem actPress_frame (d : Dev) (a : Action) : Frame (withAct d a) (actPress d a).1 := by
  rw [actPress_eq]; split
  · exact checkDouble_frame _
  · exact invokePress_frame _ a

theorem actPress_outs (d : Dev) (a : Action) :
    (actPress d a).2 = [] ∨ (a = .panic ∧ (actPress d a).2 = panicOuts d.channel) := by
  rw [actPress_eq]; split
  · exact Or.inl rfl
  · rw [invokePress_outs]; split
    · exact Or.inr ⟨‹_›, rfl⟩
    · exact Or.inl rfl

theorem actPress_dinv {cfg : Config} {d : Dev} (hd : DInv cfg d) (a : Action) : DInv cfg (actPress d a).1 := by
  have hw := (withAct_kept d a).dinv hd
  rw [actPress_eq]; split
  · exact checkDouble_dinv hw
  · exact invokePress_dinv hw a

theorem handleKey_crash {d : Dev} (hm : d.curMap = none) (sub : Sub) (code : Code) (val : Int) :
    d.handleKey sub code val = ({ d with dead := true }, [.panic]) := by
  unfold Dev.handleKey; rw [hm]

theorem kt_curMap (d : Dev) (code : Code) (val : Int) : (kt d code val).curMap = d.curMap := by
  unfold Dev.curMap; rw [(kt_kept d code val).cfg, (kt_kept d code val).mapping]

theorem handleKey_eq0 {d : Dev} {m : Mapping} (hm : d.curMap = some m) (sub : Sub) (code : Code) (val : Int) :
    d.handleKey sub code val =
      if val = 1 ∧ (kt d code val).exitComplete = true then (kt d code val, [.sig]) else
      match alookup code d.cfg.actions with
      | some a =>
        if val = 1 then actPress (kt d code val) a
        else if val = 0 then (actRelease (kt d code val) a, [])
        else (kt d code val, [])
      | none =>
        if val = 1 then (kt d code val).noteOn sub code
        else if val = 0 then (kt d code val).noteOff code
        else (kt d code val, []) := by
  unfold Dev.handleKey
  rw [hm]
  dsimp only
  cases hn : alookup (sub, code) m.midi with
  | some k => rfl
  | none =>
    -- the handler's own test for a note key is redundant: `NoteOn` does nothing for an unmapped key
    have hon : (kt d code val).noteOn sub code = (kt d code val, []) := by
      unfold Dev.noteOn; rw [kt_curMap, hm]; simp only [hn]
    rw [hon]
    cases alookup code d.cfg.actions with
    | some a => rfl
    | none =>
      by_cases h1 : val = 1
      · subst h1; rfl
      · simp only [kt, h1, false_and, if_false, Option.isSome_none, Bool.false_eq_true]

theorem handleKey_eq {cfg : Config} {d : Dev} (hd : DInv cfg d) (sub : Sub) (code : Code) (val : Int) :
    d.handleKey sub code val =
      if val = 1 ∧ (kt d code val).exitComplete = true then (kt d code val, [.sig]) else
      match alookup code cfg.actions with
      | some a =>
        if val = 1 then actPress (kt d code val) a
        else if val = 0 then (actRelease (kt d code val) a, [])
        else (kt d code val, [])
      | none =>
        if val = 1 then (kt d code val).noteOn sub code
        else if val = 0 then (kt d code val).noteOff code
        else (kt d code val, []) := by
  obtain ⟨m, hm⟩ := hd.curMap
  rw [handleKey_eq0 hm, hd.cfg_eq]

section branches
variable {cfg : Config} {d : Dev} (hd : DInv cfg d) (sub : Sub) (code : Code)
include hd

theorem handleKey_sw (h : (kt d code 1).exitComplete = true) : d.handleKey sub code 1 = (kt d code 1, [.sig]) := by
  rw [handleKey_eq hd, if_pos ⟨rfl, h⟩]

theorem handleKey_act1 {a : Action} (ha : alookup code cfg.actions = some a) (h : (kt d code 1).exitComplete = false) :
    d.handleKey sub code 1 = actPress (kt d code 1) a := by
  rw [handleKey_eq hd, ha, if_neg (by simp [h])]; rfl

theorem handleKey_act0 {a : Action} (ha : alookup code cfg.actions = some a) :
    d.handleKey sub code 0 = (actRelease (kt d code 0) a, []) := by
  rw [handleKey_eq hd, ha, if_neg (by simp)]; rfl

theorem handleKey_note1 (hna : alookup code cfg.actions = none) (h : (kt d code 1).exitComplete = false) :
    d.handleKey sub code 1 =
      match resolve cfg (StObs.ofDev d) (u8 cfg.vel) sub code with
      | none => (kt d code 1, [])
      | some (n, ch, v) => (pressed (kt d code 1) code n ch, pressOuts cfg.mode (decide (d.count ch n > 0)) ch n v) := by
  rw [handleKey_eq hd, hna, if_neg (by simp [h])]
  exact noteOn_eq ((kt_kept d code 1).dinv hd) sub code

theorem handleKey_note0 (hna : alookup code cfg.actions = none) :
    d.handleKey sub code 0 =
      match alookup code d.noteTr with
      | none => (kt d code 0, [])
      | some (n, ch) => (released (kt d code 0) code n ch, releaseOuts cfg.mode (decide (d.count ch n = 1)) ch n) := by
  rw [handleKey_eq hd, hna, if_neg (by simp)]
  exact noteOff_eq ((kt_kept d code 0).dinv hd) code

theorem handleKey_other {val : Int} (h0 : val ≠ 0) (h1 : val ≠ 1) : d.handleKey sub code val = (kt d code val, []) := by
  rw [handleKey_eq hd, if_neg (fun h => h1 h.1)]
  cases alookup code cfg.actions <;> simp only [h0, h1, if_false]

end branches

/-- the clauses that do not look at the history: `DInv`, well-formed messages (C05; the velocity
    byte is the configured one), the signal on the completing press and only there (C14), state actions silent (C02) -/
theorem handleKey_model {cfg : Config} {d : Dev} (hd : DInv cfg d) (sub : Sub) (code : Code) (val : Int) :
    DInv cfg (d.handleKey sub code val).1 ∧ (u8 cfg.vel ≤ 127 → (d.handleKey sub code val).2.all wellFormed = true) ∧
    if val = 1 ∧ (kt d code val).exitComplete = true then d.handleKey sub code val = (kt d code val, [.sig])
    else (d.handleKey sub code val).2.all isMidi = true ∧
      ((stateActionOf cfg (.key sub code val)).isSome = true → (d.handleKey sub code val).2 = []) := by
  have hd1 := (kt_kept d code val).dinv hd
  rw [handleKey_eq hd]
  -- the handler's conditional and the statement's are rewritten by name: `split` here is slow to check
  by_cases hsw : val = 1 ∧ (kt d code val).exitComplete = true
  · rw [if_pos hsw, if_pos hsw]
    exact ⟨hd1, fun _ => rfl, rfl⟩
  · rw [if_neg hsw, if_neg hsw]
    cases ha : alookup code cfg.actions with
    | some a =>
      simp only [stateActionOf, ha, Option.filter_some]
      split
      · refine ⟨actPress_dinv hd1 a, ?_⟩
        rcases actPress_outs (kt d code val) a with h | ⟨rfl, h⟩ <;> rw [h]
        · exact ⟨fun _ => rfl, rfl, fun _ => rfl⟩
        · rw [panicOuts_eq hd1.ch]
          exact ⟨fun _ => panicMsgs_wf hd1.ch, panicMsgs_midi _, fun h => by simp [isStateAction] at h⟩
      · split
        · exact ⟨(actRelease_kept _ a).dinv hd1, fun _ => rfl, rfl, fun _ => rfl⟩
        · exact ⟨hd1, fun _ => rfl, rfl, fun _ => rfl⟩
    | none =>
      simp only [stateActionOf, ha, Option.filter_none, Option.isSome_none, Bool.false_eq_true, false_imp_iff, and_true]
      split
      · rw [noteOn_eq hd1]
        split
        · exact ⟨hd1, fun _ => rfl, rfl⟩
        · rename_i n ch v hr
          obtain ⟨hn, hch, rfl⟩ := resolve_some hr
          exact ⟨hd1.pressed code hn hch, fun hv => okOut_wf (pressOuts_ok _ _ hch hn hv), pressOuts_midi _ _ _ _ _⟩
      · split
        · rw [noteOff_eq hd1]
          split
          · exact ⟨hd1, fun _ => rfl, rfl⟩
          · rename_i n ch hl
            have hw := hd1.wf _ (alookup_mem hl)
            exact ⟨hd1.released code _ _, fun _ => okOut_wf (releaseOuts_ok _ _ hw.2 hw.1), releaseOuts_midi _ _ _ _⟩
        · exact ⟨hd1, fun _ => rfl, rfl⟩

end Hidi.EngineSim
