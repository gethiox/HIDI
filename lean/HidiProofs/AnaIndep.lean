/-
  HidiProofs.AnaIndep — the key handler neither reads nor writes the analog note tracker: running it on a state and on
  the same state with another `anaTr` gives the same messages and the same state up to `anaTr`.  This transfers every
  per-event theorem proved for key-only states (`DInv`, where `anaTr = []`) to the states of mixed histories.
-/
import HidiProofs.EngineSimModel
namespace Hidi.AnaIndep
open Hidi Hidi.Spec Hidi.EngineSim

def setAna (d : Dev) (a : List ((Code × Bool) × (Nat × Nat))) : Dev := { d with anaTr := a }

@[simp] theorem setAna_setAna (d : Dev) (a b) : setAna (setAna d a) b = setAna d b := rfl
@[simp] theorem setAna_self (d : Dev) : setAna d d.anaTr = d := rfl

def liftR (r : Dev × List Out) (a : List ((Code × Bool) × (Nat × Nat))) : Dev × List Out := (setAna r.1 a, r.2)

section proj
variable (d : Dev) (a : List ((Code × Bool) × (Nat × Nat)))
@[simp] theorem setAna_cfg : (setAna d a).cfg = d.cfg := rfl
@[simp] theorem setAna_octave : (setAna d a).octave = d.octave := rfl
@[simp] theorem setAna_semitone : (setAna d a).semitone = d.semitone := rfl
@[simp] theorem setAna_channel : (setAna d a).channel = d.channel := rfl
@[simp] theorem setAna_velocity : (setAna d a).velocity = d.velocity := rfl
@[simp] theorem setAna_mapping : (setAna d a).mapping = d.mapping := rfl
@[simp] theorem setAna_noteTr : (setAna d a).noteTr = d.noteTr := rfl
@[simp] theorem setAna_counter : (setAna d a).counter = d.counter := rfl
@[simp] theorem setAna_actTr : (setAna d a).actTr = d.actTr := rfl
@[simp] theorem setAna_keyTr : (setAna d a).keyTr = d.keyTr := rfl
@[simp] theorem setAna_anaTr : (setAna d a).anaTr = a := rfl
@[simp] theorem setAna_curMap : (setAna d a).curMap = d.curMap := rfl
@[simp] theorem setAna_count (ch n : Nat) : (setAna d a).count ch n = d.count ch n := rfl
@[simp] theorem setAna_transposed (n : Nat) : (setAna d a).transposed n = d.transposed n := rfl
@[simp] theorem setAna_exitComplete : (setAna d a).exitComplete = d.exitComplete := rfl
end proj

theorem liftR_ite (c : Prop) [Decidable c] (x y : Dev × List Out) (a) :
    liftR (if c then x else y) a = if c then liftR x a else liftR y a := apply_ite (liftR · a) c x y

theorem noteOn_ana (d : Dev) (a) (sub : Sub) (code : Code) :
    (setAna d a).noteOn sub code = liftR (d.noteOn sub code) a := by
  unfold Dev.noteOn
  rw [setAna_curMap]
  cases d.curMap with
  | none => rfl
  | some m =>
    dsimp only
    cases alookup (sub, code) m.midi with
    | none => rfl
    | some key => dsimp only [setAna_transposed]; rw [liftR_ite]; rfl

theorem noteOff_ana (d : Dev) (a) (code : Code) :
    (setAna d a).noteOff code = liftR (d.noteOff code) a := by
  rw [noteOff_raw, noteOff_raw, setAna_noteTr]
  cases alookup code d.noteTr <;> rfl

theorem checkDouble_ana (d : Dev) (a) :
    (setAna d a).checkDouble = (setAna d.checkDouble.1 a, d.checkDouble.2) := by
  rw [checkDouble_eq, checkDouble_eq, setAna_actTr]
  cases dblPair d.actTr <;> rfl

theorem invokePress_ana (d : Dev) (a) (x : Action) :
    (setAna d a).invokePress x = liftR (d.invokePress x) a := by
  rw [invokePress_eq, invokePress_eq]; rfl

theorem kt_ana (d : Dev) (a) (code : Code) (val : Int) : kt (setAna d a) code val = setAna (kt d code val) a := by
  rw [kt_eq, kt_eq]; rfl

theorem actPress_ana (d : Dev) (a) (x : Action) : actPress (setAna d a) x = liftR (actPress d x) a := by
  rw [actPress_eq, actPress_eq, show withAct (setAna d a) x = setAna (withAct d x) a from rfl, checkDouble_ana, liftR_ite,
    invokePress_ana]
  -- the result of `checkDoubleActions` as a variable: otherwise `rfl` unfolds it
  generalize (withAct d x).checkDouble = r
  rfl

theorem actRelease_ana (d : Dev) (a) (x : Action) : actRelease (setAna d a) x = setAna (actRelease d x) a := by
  rw [actRelease_eq, actRelease_eq]; rfl

/-- **the key handler does not depend on the analog tracker and does not touch it** (in any state: the crash for want of a
    mapping does not either) -/
theorem handleKey_ana (d : Dev) (a) (sub : Sub) (code : Code) (val : Int) :
    (setAna d a).handleKey sub code val = liftR (d.handleKey sub code val) a := by
  cases hm : d.curMap with
  | none => rw [handleKey_crash hm, handleKey_crash (d := setAna d a) hm]; rfl
  | some m =>
    have hm' : (setAna d a).curMap = some m := hm
    rw [handleKey_eq0 hm', handleKey_eq0 hm, setAna_cfg]
    cases alookup code d.cfg.actions <;>
      simp only [kt_ana, setAna_exitComplete, actPress_ana, actRelease_ana, noteOn_ana, noteOff_ana, liftR_ite] <;> rfl

/-- the invariant of key handling, for states whose analog tracker may be non-empty: `DInv` with the analog tracker set
    aside -/
def KInv (cfg : Config) (d : Dev) : Prop := DInv cfg (setAna d [])

theorem KInv.curMap {cfg : Config} {d : Dev} (h : KInv cfg d) : ∃ m, d.curMap = some m :=
  curMap_some (d := d) (h.cfg_eq ▸ h.map)

theorem handleKey_split {cfg : Config} {d : Dev} (h : KInv cfg d) (sub : Sub) (code : Code) (val : Int) :
    d.handleKey sub code val = liftR ((setAna d []).handleKey sub code val) d.anaTr := by
  simpa using handleKey_ana (setAna d []) d.anaTr sub code val

end Hidi.AnaIndep
