/-
  For C11: `stringToNote` does not see letter case (`stringToNote_upper`), and every accepted string is, upper-cased, one
  of 7·2·2·10 = 280 candidate strings (`accepted_shape`), which are checked exhaustively by kernel evaluation.
-/
import Hidi.Notes
import HidiProofs.AList
namespace Hidi.NotesLemmas
open Hidi

theorem toNat_ofNat_small (n : Nat) (h : n < 55296) : (Char.ofNat n).toNat = n := by
  unfold Char.ofNat
  have : n.isValidChar := Or.inl h
  simp [this, Char.ofNatAux, Char.toNat]

theorem char_le_iff (a b : Char) : a ≤ b ↔ a.toNat ≤ b.toNat := by
  rw [Char.le_def, UInt32.le_iff_toNat_le]; rfl

theorem upperC_toNat (c : Char) :
    (upperC c).toNat = if 97 ≤ c.toNat ∧ c.toNat ≤ 122 then c.toNat - 32 else c.toNat := by
  unfold upperC
  simp only [char_le_iff, Char.reduceToNat]
  split
  · rw [toNat_ofNat_small]; omega
  · rfl

theorem isLetter_eq (c : Char) :
    isLetter c = decide ((97 ≤ c.toNat ∧ c.toNat ≤ 122) ∨ (65 ≤ c.toNat ∧ c.toNat ≤ 90)) := by
  unfold isLetter
  simp only [char_le_iff, Char.reduceToNat]

theorem isDigit_eq (c : Char) : isDigit c = decide (48 ≤ c.toNat ∧ c.toNat ≤ 57) := by
  unfold isDigit
  simp only [char_le_iff, Char.reduceToNat]

theorem upperC_idem (c : Char) : upperC (upperC c) = upperC c := by
  apply Char.toNat_inj.mp
  rw [upperC_toNat (upperC c), upperC_toNat c]
  (repeat' split) <;> omega

theorem isLetter_upperC (c : Char) : isLetter (upperC c) = isLetter c := by
  rw [isLetter_eq, isLetter_eq, upperC_toNat, decide_eq_decide]
  split <;> omega

theorem isDigit_upperC (c : Char) : isDigit (upperC c) = isDigit c := by
  rw [isDigit_eq, isDigit_eq, upperC_toNat, decide_eq_decide]
  split <;> omega

theorem upperC_of_isDigit (c : Char) (h : isDigit c = true) : upperC c = c := by
  apply Char.toNat_inj.mp
  rw [isDigit_eq] at h
  rw [upperC_toNat]
  have := of_decide_eq_true h
  split <;> omega

theorem upperC_eq_sharp (c : Char) : upperC c = '#' ↔ c = '#' := by
  rw [← Char.toNat_inj, ← Char.toNat_inj (c := c), upperC_toNat]
  simp only [Char.reduceToNat]
  split <;> omega

theorem upperC_eq_dash (c : Char) : upperC c = '-' ↔ c = '-' := by
  rw [← Char.toNat_inj, ← Char.toNat_inj (c := c), upperC_toNat]
  simp only [Char.reduceToNat]
  split <;> omega

theorem stringToNote_total (s : List Char) : stringToNote s ≠ .panic := by
  intro h
  unfold stringToNote at h
  simp only [] at h
  repeat' split at h
  all_goals cases h

theorem stringToNote_lt {s : List Char} {n : Nat} (h : stringToNote s = .ok n) : n < 128 := by
  unfold stringToNote at h
  simp only [] at h
  repeat' split at h
  all_goals cases h
  -- left: the branches that return `.ok cal` (octave sign), each under the negation of the last test `cal > 127`
  all_goals omega

theorem matchNote_map (s : List Char) :
    matchNote (s.map upperC) = (matchNote s).map (fun r => (r.1.map upperC, r.2.1, r.2.2)) := by
  match s with
  | [] => simp [matchNote]
  | [_] => simp [matchNote]
  | [l, d] =>
    simp only [matchNote, List.map, isLetter_upperC, isDigit_upperC]
    split
    · next h => simp [upperC_of_isDigit d h.2]
    · simp
  | [l, x, d] =>
    simp only [matchNote, List.map, isLetter_upperC, isDigit_upperC, upperC_eq_sharp, upperC_eq_dash]
    split
    · next h =>
      split
      · simp [upperC_of_isDigit d h.2]; decide
      · split
        · simp [upperC_of_isDigit d h.2]
        · simp
    · simp
  | [l, x, y, d] =>
    simp only [matchNote, List.map, isLetter_upperC, isDigit_upperC, upperC_eq_sharp, upperC_eq_dash]
    split
    · next h => simp [upperC_of_isDigit d h.2.2.2]; decide
    · simp
  | _ :: _ :: _ :: _ :: _ :: _ => simp [matchNote]

theorem stringToNote_upper (s : List Char) : stringToNote (s.map upperC) = stringToNote s := by
  unfold stringToNote
  rw [matchNote_map]
  cases matchNote s with
  | none => rfl
  | some r =>
    have : upperC ∘ upperC = upperC := funext upperC_idem
    simp only [Option.map_some, List.map_map, this]

def pitches : List Char := ['A', 'B', 'C', 'D', 'E', 'F', 'G']
def digits : List Char := ['0', '1', '2', '3', '4', '5', '6', '7', '8', '9']
def opt (b : Bool) (c : Char) : List Char := if b then [c] else []
def mk (P : Char) (sharp neg : Bool) (D : Char) : List Char :=
  P :: (opt sharp '#' ++ (opt neg '-' ++ [D]))

theorem mem_digits (d : Char) (h : isDigit d = true) : d ∈ digits := by
  rw [isDigit_eq] at h
  have h := of_decide_eq_true h
  rw [← Char.ofNat_toNat d]
  exact (by decide : ∀ n, n < 58 → 48 ≤ n → Char.ofNat n ∈ digits) _ (by omega) h.1

theorem matchNote_shape (s p : List Char) (neg : Bool) (d : Char)
    (h : matchNote s = some (p, neg, d)) :
    isDigit d = true ∧ ∃ l sharp, p = l :: opt sharp '#' ∧ s = mk l sharp neg d := by
  revert h
  fun_cases matchNote s
  -- the accepting branches: `[l, d]`, `[l, '#', d]`, `[l, '-', d]`, `[l, '#', '-', d]`
  case case1 l d hh => intro h; cases h; exact ⟨hh.2, l, false, rfl, rfl⟩
  case case3 l d hh => intro h; cases h; exact ⟨hh.2, l, true, rfl, rfl⟩
  case case4 l d hh _ => intro h; cases h; exact ⟨hh.2, l, false, rfl, rfl⟩
  case case7 l x y d hh => obtain ⟨-, rfl, rfl, hd⟩ := hh; intro h; cases h; exact ⟨hd, l, true, rfl, rfl⟩
  all_goals exact fun h => nomatch h

theorem pitch_mem (c : Char) (sharp : Bool) (v : Nat)
    (h : pitchVal (c :: opt sharp '#') = some v) : c ∈ pitches :=
  (by decide : ∀ e ∈ Gen.pitchToValC, ∀ c ∈ e.1.head?, c ∈ pitches) _ (alookup_mem h) c rfl

def check (t : List Char) : Bool :=
  match stringToNote t with
  | .ok n => decide (t = noteName n)
  | _ => true

theorem check_sound (t : List Char) (n : Nat) (hc : check t = true) (h : stringToNote t = .ok n) : t = noteName n := by
  unfold check at hc
  rw [h] at hc
  exact of_decide_eq_true hc

theorem check_candidates :
    ∀ P ∈ pitches, ∀ sharp ∈ [false, true], ∀ neg ∈ [false, true], ∀ D ∈ digits,
      check (mk P sharp neg D) = true := by
  decide +kernel

theorem accepted_shape (s : List Char) (n : Nat) (h : stringToNote s = .ok n) :
    ∃ P ∈ pitches, ∃ sharp neg, ∃ D ∈ digits, s.map upperC = mk P sharp neg D := by
  unfold stringToNote at h
  cases hm : matchNote s with
  | none => rw [hm] at h; cases h
  | some r =>
    obtain ⟨p, neg, d⟩ := r
    obtain ⟨hd, l, sharp, rfl, rfl⟩ := matchNote_shape s p neg d hm
    have hp : (l :: opt sharp '#').map upperC = upperC l :: opt sharp '#' := by cases sharp <;> rfl
    have hs : (mk l sharp neg d).map upperC = mk (upperC l) sharp neg (upperC d) := by cases sharp <;> cases neg <;> rfl
    rw [upperC_of_isDigit d hd] at hs
    simp only [hm, hp] at h
    cases hv : pitchVal (upperC l :: opt sharp '#') with
    | none => rw [hv] at h; cases h
    | some v => exact ⟨upperC l, pitch_mem _ _ _ hv, sharp, neg, d, mem_digits d hd, hs⟩

end Hidi.NotesLemmas
