/-
  GenTieRun — the regenerated event path run over a whole history produces the model's trace.

  `genStep` hands one event to the functions regenerated from the Go sources (`Body.processEvent` for key, axis and SYN
  events, `Body.midiInBody` for a MIDI-input message) and collects what they sent; `genRun` does that for a history.
  For every accepted configuration and every history of keys, axes, SYN and MIDI input that does not end in a crashed
  device (an axis without any deadzone entry is a Go panic), the result is the model's final state and the model's
  messages — so every theorem about `Dev.run` / `Dev.runFlat` (C01–C08, C13, C14) is a theorem about the code the
  translator read on this run.
-/
import HidiProofs.Props.GenTieAbs
import HidiProofs.BodiesMidiIn
import HidiProofs.Props.C14mixed
import HidiProofs.Props.GenTie
namespace Hidi.Props.GenTieRun
open Hidi Hidi.GoLite Hidi.Gen Hidi.BodiesTie Hidi.Spec

/-- one event through the regenerated code, starting with nothing sent: (state afterwards, what was sent) -/
def genStep (g : GSt) : Ev → GSt × List Out
  | .key sub code v => let r := Body.processEvent { g with out := [] } sub "" code v 1; ({ r with out := [] }, r.out)
  | .abs sub node code v => let r := Body.processEvent { g with out := [] } sub node code v 3; ({ r with out := [] }, r.out)
  | .syn => let r := Body.processEvent { g with out := [] } "" "" 0 0 0; ({ r with out := [] }, r.out)
  | .midiIn a b c => let r := Body.midiInBody { g with out := [] } a b c; ({ r with out := [] }, r.out)

def genRun (g : GSt) : List Ev → GSt × List Out
  | [] => (g, [])
  | e :: es =>
    let (g1, o1) := genStep g e
    let (g2, o2) := genRun g1 es
    (g2, o1 ++ o2)

theorem toG_out_nil (d : Dev) : ({ toG d with out := [] } : GSt) = toG d := rfl
theorem toGR_out_nil (r : Dev × List Out) : ({ toGR r with out := [] } : GSt) = toG r.1 := rfl
theorem toGR_out (r : Dev × List Out) : (toGR r).out = r.2 := rfl

theorem genStep_eq (d : Dev) (hch : d.channel < 256) (hdead : d.dead = false) (e : Ev) :
    genStep (toG d) e = (toG (d.step e).1, (d.step e).2) := by
  cases e with
  | key sub code v =>
    simp only [genStep, toG_out_nil, processEvent_key d hch hdead, toGR_out_nil, toGR_out]
  | abs sub node code v =>
    simp only [genStep, toG_out_nil, processEvent_abs d hch hdead, toGR_out_nil, toGR_out]
  | syn =>
    simp only [genStep, toG_out_nil, processEvent_syn d hdead, toGR_out_nil, toGR_out]
  | midiIn a b c =>
    simp only [genStep, toG_out_nil, Dev.step, hdead, Bool.false_eq_true, ↓reduceIte, midiIn_tie]
    rfl

/-- **whole histories**: from every state satisfying the C05 invariant, as long as the device does not crash -/
theorem genRun_eq {cfg : Config} (hacc : Accepted cfg = true) :
    ∀ (evs : List Ev) (d : Dev), C05.DevOK cfg d → (d.run evs).1.dead = false →
      genRun (toG d) evs = (toG (d.runFlat evs).1, (d.runFlat evs).2) := by
  intro evs
  induction evs with
  | nil => intro d _ _; rfl
  | cons e es ih =>
    intro d hd hdead
    have hd0 := C14.alive_before _ d hdead
    rw [C05.run_cons] at hdead
    simp only [genRun, genStep_eq d (Nat.lt_trans hd.ch (by decide)) hd0 e,
      ih (d.step e).1 (C05.C05_step_ok cfg hacc d e hd) (by simpa using hdead)]
    simp [Dev.runFlat, C05.run_cons]

/-- from the initial state of an accepted configuration -/
theorem GenTie_run (cfg : Config) (hacc : Accepted cfg = true) (evs : List Ev)
    (hdead : ((Dev.init cfg).run evs).1.dead = false) :
    genRun (toG (Dev.init cfg)) evs = (toG ((Dev.init cfg).runFlat evs).1, ((Dev.init cfg).runFlat evs).2) :=
  genRun_eq hacc evs (Dev.init cfg) (C05.C05_init cfg hacc) hdead

/-- the initial state: the `Device{…}` literal of `NewDevice` (regenerated) is the model's `Dev.init` -/
theorem GenTie_newDevice (cfg : Config) : Body.newDevice cfg = toG (Dev.init cfg) := by
  unfold Body.newDevice
  rw [wrapU8_eq, wrapU8_eq]
  rfl

/-- **from construction to any history**: the regenerated constructor followed by the regenerated event path -/
theorem GenTie_run_from_new (cfg : Config) (hacc : Accepted cfg = true) (evs : List Ev)
    (hdead : ((Dev.init cfg).run evs).1.dead = false) :
    genRun (Body.newDevice cfg) evs = (toG ((Dev.init cfg).runFlat evs).1, ((Dev.init cfg).runFlat evs).2) := by
  rw [GenTie_newDevice]; exact GenTie_run cfg hacc evs hdead

/-- C05 for whole histories of the regenerated code: if every event is in range at the state it meets and the device does
    not crash, every message it sends is a well-formed MIDI channel message -/
theorem GenTie_run_wellformed (cfg : Config) (hacc : Accepted cfg = true) (evs : List Ev)
    (hdead : ((Dev.init cfg).run evs).1.dead = false)
    (hr : ∀ i (h : i < evs.length), evInRange cfg (StObs.ofDev ((Dev.init cfg).run (evs.take i)).1) evs[i] = true) :
    ∀ o ∈ (genRun (toG (Dev.init cfg)) evs).2, wellFormed o = true := by
  rw [GenTie_run cfg hacc evs hdead]
  intro o ho
  simp only [Dev.runFlat] at ho
  obtain ⟨os, hos, hoo⟩ := List.mem_flatten.mp ho
  exact C05.C05_run cfg hacc evs hr os hos o hoo

/-! ### non-vacuity: the regenerated code run on a concrete history (keys, an action, MIDI input, SYN) -/

example :
    (genRun (toG (Dev.init GenTie.exC))
      [.key "" 30 1, .key "" 59 1, .key "" 59 0, .syn, .midiIn 0x90 60 100, .key "" 31 1, .key "" 30 0, .key "" 31 0]).2 =
      [.midi 0x90 60 64, .midi 0x91 74 64, .midi 0x80 60 0, .midi 0x81 74 0] := by decide

end Hidi.Props.GenTieRun
