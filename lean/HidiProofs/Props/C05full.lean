/-
  C05 — every message the model emits is a well-formed MIDI message (`Spec.wellFormed`), for all
  events in range (`Spec.evInRange`), including axes, the panic action and the disconnect clean-up.

  `DevOK` is the invariant: channel < 16, velocity in 1..127, a valid mapping index, and tracked
  (note, channel) pairs in range.  It is preserved by every step (in range or not); the outputs are
  well-formed for every step in range.  The only place where the range hypothesis is needed is the
  data byte of a controller message (`ccByte` of the shaped value, C06).
-/
import HidiProofs.Props.C06
import HidiProofs.Handlers
namespace Hidi.Props.C05
open Hidi Hidi.Spec Hidi.FloatLemmas Hidi.AxisLemmas Hidi.Props.C06 Hidi.AxisKeyLemmas

def DevOK (cfg : Config) (d : Dev) : Prop :=
  d.cfg = cfg ∧ d.channel < 16 ∧ 1 ≤ d.velocity ∧ d.velocity ≤ 127 ∧ d.mapping < cfg.maps.length ∧
  (∀ p ∈ d.noteTr, p.2.1 ≤ 127 ∧ p.2.2 < 16) ∧ (∀ p ∈ d.anaTr, p.2.1 ≤ 127 ∧ p.2.2 < 16)

def WF (os : List Out) : Prop := ∀ o ∈ os, wellFormed o = true

theorem WF_nil : WF [] := by intro o h; cases h

theorem WF_append {a b : List Out} (ha : WF a) (hb : WF b) : WF (a ++ b) := by
  intro o h
  rcases List.mem_append.mp h with h | h
  · exact ha o h
  · exact hb o h

theorem WF_cons {o : Out} {l : List Out} (ho : wellFormed o = true) (hl : WF l) : WF (o :: l) := by
  intro x hx
  rcases List.mem_cons.mp hx with rfl | h
  · exact ho
  · exact hl x h

theorem WF_single {o : Out} (ho : wellFormed o = true) : WF [o] := WF_cons ho WF_nil

theorem wf_midi_iff {a b c : Nat} : wellFormed (.midi a b c) = true ↔
    (a / 16 = 8 ∨ a / 16 = 9 ∨ a / 16 = 11 ∨ a / 16 = 14) ∧ a < 256 ∧ b < 128 ∧ c < 128 := by
  simp [wellFormed]

theorem wf_noteOn {ch note vel : Nat} (hch : ch < 16) (hn : note ≤ 127) (hv : vel ≤ 127) :
    wellFormed (noteEvent stNoteOn ch note vel) = true := by
  rw [noteEvent_on hch]; exact EngineSim.noteOnMsg_wf hch hn hv

theorem wf_noteOff {ch note : Nat} (hch : ch < 16) (hn : note ≤ 127) :
    wellFormed (noteEvent stNoteOff ch note 0) = true := by
  rw [noteEvent_off hch]; exact EngineSim.noteOffMsg_wf hch hn

theorem wf_cc {ch fn v : Nat} (hch : ch < 16) (hn : fn ≤ 127) (hv : v ≤ 127) :
    wellFormed (ccEvent ch fn v) = true := by
  have := st_cc ch hch
  unfold ccEvent stCC
  rw [wf_midi_iff, this]; omega

theorem wf_pb {ch : Nat} (hch : ch < 16) (val : Rat) :
    wellFormed (pitchBendEvent ch val) = true := by
  have := st_pb ch hch
  unfold pitchBendEvent stPB
  simp only []
  rw [wf_midi_iff, this]; omega

/-- tracked (note, channel) pairs are in range -/
def TrOK {κ} (l : List (κ × (Nat × Nat))) : Prop := ∀ p ∈ l, p.2.1 ≤ 127 ∧ p.2.2 < 16

theorem TrOK_aerase {κ} [DecidableEq κ] {k : κ} {l : List (κ × (Nat × Nat))} (h : TrOK l) :
    TrOK (aerase k l) := fun p hp => h p (mem_aerase.mp hp).1

theorem TrOK_ainsert {κ} [DecidableEq κ] {k : κ} {n c : Nat} {l : List (κ × (Nat × Nat))}
    (h : TrOK l) (hn : n ≤ 127) (hc : c < 16) : TrOK (ainsert k (n, c) l) := by
  intro p hp
  rcases mem_ainsert.mp hp with hp | rfl
  · exact h p hp.1
  · exact ⟨hn, hc⟩

theorem TrOK_lookup {κ} [DecidableEq κ] {k : κ} {n c : Nat} {l : List (κ × (Nat × Nat))}
    (h : TrOK l) (hl : alookup k l = some (n, c)) : n ≤ 127 ∧ c < 16 :=
  h _ (alookup_mem hl)

theorem TrOK.ch {κ} {l : List (κ × (Nat × Nat))} (h : TrOK l) : ∀ p ∈ l, p.2.2 < 16 := fun p hp => (h p hp).2

theorem DevOK.noteTr {cfg : Config} {d : Dev} (h : DevOK cfg d) : TrOK d.noteTr := h.2.2.2.2.2.1
theorem DevOK.anaTr {cfg : Config} {d : Dev} (h : DevOK cfg d) : TrOK d.anaTr := h.2.2.2.2.2.2
theorem DevOK.ch {cfg : Config} {d : Dev} (h : DevOK cfg d) : d.channel < 16 := h.2.1
theorem DevOK.vel_pos {cfg : Config} {d : Dev} (h : DevOK cfg d) : 1 ≤ d.velocity := h.2.2.1
theorem DevOK.vel {cfg : Config} {d : Dev} (h : DevOK cfg d) : d.velocity ≤ 127 := h.2.2.2.1
theorem DevOK.map {cfg : Config} {d : Dev} (h : DevOK cfg d) : d.mapping < cfg.maps.length := h.2.2.2.2.1
theorem DevOK.cfg_eq {cfg : Config} {d : Dev} (h : DevOK cfg d) : d.cfg = cfg := h.1

theorem DevOK.curMap {cfg : Config} {d : Dev} (h : DevOK cfg d) : ∃ m, d.curMap = some m :=
  EngineSim.curMap_some (d := d) (h.cfg_eq ▸ h.map)

/-! `DevOK` reads `cfg`, `channel`, `velocity`, `mapping` and the two trackers only: after an update of any other field
it holds by unfolding (`exact h`); an update of one of these needs the one fact about the new value. -/

theorem DevOK.with_noteTr {cfg : Config} {d : Dev} (h : DevOK cfg d) {t : List (Code × (Nat × Nat))} (ht : TrOK t) :
    DevOK cfg { d with noteTr := t } := ⟨h.1, h.2.1, h.2.2.1, h.2.2.2.1, h.2.2.2.2.1, ht, h.2.2.2.2.2.2⟩

theorem DevOK.with_anaTr {cfg : Config} {d : Dev} (h : DevOK cfg d) {t : List ((Code × Bool) × (Nat × Nat))}
    (ht : TrOK t) : DevOK cfg { d with anaTr := t } := ⟨h.1, h.2.1, h.2.2.1, h.2.2.2.1, h.2.2.2.2.1, h.2.2.2.2.2.1, ht⟩

theorem DevOK.with_channel {cfg : Config} {d : Dev} (h : DevOK cfg d) {c : Nat} (hc : c < 16) :
    DevOK cfg { d with channel := c } := ⟨h.1, hc, h.2.2⟩

theorem DevOK.with_mapping {cfg : Config} {d : Dev} (h : DevOK cfg d) {m : Nat} (hm : m < cfg.maps.length) :
    DevOK cfg { d with mapping := m } := ⟨h.1, h.2.1, h.2.2.1, h.2.2.2.1, hm, h.2.2.2.2.2⟩

def Good (cfg : Config) (r : Dev × List Out) : Prop := DevOK cfg r.1 ∧ WF r.2

theorem Good.nil {cfg : Config} {d : Dev} (h : DevOK cfg d) : Good cfg (d, []) := ⟨h, WF_nil⟩

theorem Good.mk {cfg : Config} {d : Dev} {o : List Out} (h1 : DevOK cfg d) (h2 : WF o) :
    Good cfg (d, o) := ⟨h1, h2⟩

theorem WF_of_ok {os : List Out} (h : os.all EngineSim.okOut = true) : WF os :=
  List.all_eq_true.mp (EngineSim.okOut_wf h)

theorem noteOn_good {cfg : Config} {d : Dev} (hd : DevOK cfg d) (sub : Sub) (code : Code) :
    Good cfg (d.noteOn sub code) := by
  obtain ⟨m, hm⟩ := hd.curMap
  exact EngineSim.noteOn_cases hm sub code (Good.nil hd) fun n ch hn hch =>
    Good.mk (hd.with_noteTr (TrOK_ainsert hd.noteTr hn hch)) (WF_of_ok (EngineSim.pressOuts_ok _ _ hch hn hd.vel))

theorem noteOff_good {cfg : Config} {d : Dev} (hd : DevOK cfg d) (code : Code) :
    Good cfg (d.noteOff code) :=
  EngineSim.noteOff_cases hd.noteTr.ch code (fun _ => Good.nil hd) fun _ _ hl hch =>
    Good.mk (hd.with_noteTr (TrOK_aerase hd.noteTr)) (WF_of_ok (EngineSim.releaseOuts_ok _ _ hch (TrOK_lookup hd.noteTr hl).1))

theorem analogNoteOn_good {cfg : Config} {d : Dev} (hd : DevOK cfg d) (id : Code × Bool)
    (note chOff : Nat) : Good cfg (d.analogNoteOn id note chOff) := by
  rw [analogNoteOn_eq]
  refine iteInduction (fun _ => Good.nil hd) fun hn => ?_
  have hn' : (d.transposed note).toNat ≤ 127 := by omega
  have hc := chanOf_lt d.channel chOff
  exact Good.mk (hd.with_anaTr (TrOK_ainsert hd.anaTr hn' hc)) (WF_single (wf_noteOn hc hn' (by decide)))

theorem analogNoteOff_good {cfg : Config} {d : Dev} (hd : DevOK cfg d) (id : Code × Bool) :
    Good cfg (d.analogNoteOff id) := by
  rw [analogNoteOff_eq]
  refine Good.mk (hd.with_anaTr (TrOK_aerase hd.anaTr)) fun o ho => ?_
  obtain ⟨n, ch, hl, rfl⟩ := mem_offOuts.mp ho
  obtain ⟨hn, hc⟩ := TrOK_lookup hd.anaTr hl
  exact wf_noteOff hc hn

theorem panicOuts_wf {ch : Nat} (hc : ch < 16) : WF (panicOuts ch) := by
  rw [panicOuts_eq hc]; exact List.all_eq_true.mp (EngineSim.panicMsgs_wf hc)

theorem invokePress_good {cfg : Config} {d : Dev} (hd : DevOK cfg d) (a : Action) :
    Good cfg (d.invokePress a) := by
  obtain ⟨h1, h2⟩ := EngineSim.actionEffect_bounds cfg (s := StObs.ofDev d) a hd.ch hd.map
  rw [← EngineSim.pressStateKey_eq hd.cfg_eq hd.ch hd.map] at h1 h2
  rw [EngineSim.invokePress_eq]
  refine Good.mk ((hd.with_channel h1).with_mapping h2) ?_
  split
  · exact panicOuts_wf hd.ch
  · exact WF_nil

theorem invokeRelease_ok {cfg : Config} {d : Dev} (hd : DevOK cfg d) (a : Action) :
    DevOK cfg (d.invokeRelease a) := by
  rw [Handlers.invokeRelease_writes]; exact hd

theorem checkDouble_ok {cfg : Config} {d : Dev} (hd : DevOK cfg d) : DevOK cfg d.checkDouble.1 := by
  have hc : d.checkDouble.1.channel < 16 := by
    have := hd.ch; rcases EngineSim.checkDouble_channel d with h | h <;> omega
  have hm : d.checkDouble.1.mapping < cfg.maps.length := by
    have := hd.map; rcases EngineSim.checkDouble_mapping d with h | h <;> omega
  rw [Handlers.checkDouble_writes]
  exact (hd.with_channel hc).with_mapping hm

theorem multinote_ok {cfg : Config} {d : Dev} (hd : DevOK cfg d) : DevOK cfg d.multinote := by
  rw [Handlers.multinote_writes]; exact hd

theorem good_seq (cfg : Config) : Handlers.Seq (fun d r => DevOK cfg d → Good cfg r) :=
  ⟨fun _ h => Good.nil h, fun h1 h2 hd => ⟨(h2 (h1 hd).1).1, WF_append (h1 hd).2 (h2 (h1 hd).1).2⟩⟩

theorem handleKey_good {cfg : Config} {d : Dev} (hd : DevOK cfg d) (sub : Sub) (code : Code)
    (val : Int) : Good cfg (d.handleKey sub code val) := by
  obtain ⟨m, hm⟩ := hd.curMap
  refine Handlers.handleKey_rule (good_seq cfg) (fun _ h => Good.mk h (WF_single rfl))
    (fun _ h => Good.nil (checkDouble_ok h)) (fun _ a h => invokePress_good h a) (fun _ h => Good.nil (multinote_ok h))
    (fun _ a h => Good.nil (invokeRelease_ok h a)) (fun _ _ h => Good.nil h) (fun _ s c h => noteOn_good h s c)
    (fun _ c h => noteOff_good h c) hm sub code val ?_
  rw [EngineSim.kt_writes]; exact hd

theorem releaseAxis_good {cfg : Config} {d : Dev} (hd : DevOK cfg d) (code : Code) :
    Good cfg (d.releaseAxis code) :=
  Handlers.releaseAxis_rule (good_seq cfg) (fun _ id h => analogNoteOff_good h id) d code hd

theorem analogOk_iff {a : Analog} : analogOk a = true ↔
    a.cc ≤ 119 ∧ a.ccNeg ≤ 119 ∧ a.note ≤ 127 ∧ a.noteNeg ≤ 127 ∧ a.chOff ≤ 15 ∧ a.chOffNeg ≤ 15 := by
  simp [analogOk]

theorem accepted_key {cfg : Config} (hacc : Accepted cfg = true) {i : Nat} {m : Mapping}
    {k : Sub × Code} {key : Key} (hm : cfg.maps[i]? = some m) (hk : alookup k m.midi = some key) :
    key.note ≤ 127 ∧ key.chOff ≤ 15 :=
  EngineSim.key_ok_of_lookup hacc (List.mem_of_getElem? hm) hk

theorem bidirCC_good {cfg : Config} {d : Dev} (hd : DevOK cfg d) (a : Analog) (neg : Bool) (adj : Rat) :
    DevOK cfg (d.bidirCC a neg adj).1 ∧
      (a.cc ≤ 127 → a.ccNeg ≤ 127 → ccByte adj ≤ 127 → WF (d.bidirCC a neg adj).2) := by
  refine ⟨by rw [bidirCC_writes]; exact hd, fun h1 h2 h3 => ?_⟩
  have hn : ∀ neg, (near a d.channel neg).1 < 16 ∧ (near a d.channel neg).2 ≤ 127 := fun neg => by
    unfold near; split <;> exact ⟨chanOf_lt _ _, ‹_›⟩
  rw [bidirCC_eq]
  split
  · exact WF_single (wf_cc (hn _).1 (hn _).2 h3)
  · exact WF_cons (wf_cc (hn _).1 (hn _).2 h3) (WF_single (wf_cc (hn _).1 (hn _).2 (by norm_num)))

theorem absCC_good {cfg : Config} {d : Dev} (hd : DevOK cfg d) (a : Analog) (canNeg : Bool) (v : Rat) :
    DevOK cfg (d.absCC a canNeg v).1 ∧
      (analogOk a = true → vRange canNeg v → WF (d.absCC a canNeg v).2) := by
  refine ⟨by rw [absCC_writes]; exact hd, fun hok hr => ?_⟩
  obtain ⟨h1, h2, _⟩ := analogOk_iff.mp hok
  have hb := fun b => C06_cc_range (ccArg_range (bidir := b) hr).1 (ccArg_range hr).2
  rw [absCC_eq]
  split
  · exact (bidirCC_good hd a _ _).2 (by omega) (by omega) (hb true)
  · exact WF_single (wf_cc (chanOf_lt _ _) (by omega) (hb false))

theorem absKey_good {cfg : Config} {d : Dev} (hd : DevOK cfg d) (a : Analog) (code : Code)
    (canNeg : Bool) (v0 : Rat) : Good cfg (d.absKey a code canNeg v0) :=
  Handlers.absKey_rule (good_seq cfg) (fun _ id h => analogNoteOff_good h id)
    (fun _ id n c _ h => analogNoteOn_good h id n c) d a code canNeg v0 hd

theorem DevOK.with_actTr {cfg : Config} {d : Dev} (h : DevOK cfg d) (l : List Action) :
    DevOK cfg { d with actTr := l } := h

theorem absAction_good {cfg : Config} {d : Dev} (hd : DevOK cfg d) (a : Analog)
    (canNeg : Bool) (v0 : Rat) : Good cfg (d.absAction a canNeg v0) :=
  Handlers.absAction_rule (good_seq cfg) (fun _ h => Good.nil (checkDouble_ok h)) (fun _ x h => invokePress_good h x)
    (fun _ x h => Good.nil (invokeRelease_ok h x)) (fun _ _ h => Good.nil h) d a canNeg v0 hd

def GoodIf (R : Prop) (cfg : Config) (r : Dev × List Out) : Prop := DevOK cfg r.1 ∧ (R → WF r.2)

theorem Good.goodIf {R : Prop} {cfg : Config} {r : Dev × List Out} (h : Good cfg r) :
    GoodIf R cfg r := ⟨h.1, fun _ => h.2⟩

theorem GoodIf.seq {R : Prop} {cfg : Config} {pre : List Out} {q : Dev × List Out}
    (hp : WF pre) (hq : GoodIf R cfg q) : GoodIf R cfg (q.1, pre ++ q.2) :=
  ⟨hq.1, fun r => WF_append hp (hq.2 r)⟩

theorem DevOK.with_lastAna {cfg : Config} {d : Dev} (h : DevOK cfg d) (l : List ((Sub × Code) × Rat)) :
    DevOK cfg { d with lastAna := l } := h

/-- the handler from the shaped value `w` on; `hv`: within the event's range the flipped value is in `vRange` -/
theorem tailW_good {cfg : Config} {d : Dev} (hd : DevOK cfg d) {a : Analog} (hok : analogOk a = true) (sub : Sub)
    (code : Code) (cn : Bool) (w : Rat) {R : Prop} (hv : R → vRange cn (flipVal cn a.flip w)) :
    GoodIf R cfg (BodiesTie.tailW d a sub code cn w) := by
  unfold BodiesTie.tailW BodiesTie.kindDispatch
  have hd' := hd.with_lastAna (ainsert (sub, code) w d.lastAna)
  refine iteInduction (fun _ => (Good.nil hd).goodIf) fun _ => iteInduction (fun _ => (Good.nil hd').goodIf) fun _ => ?_
  cases a.kind with
  | cc => exact ⟨(absCC_good hd' a _ _).1, fun r => (absCC_good hd' a _ _).2 hok (hv r)⟩
  | pitchBend => exact (Good.mk hd' (WF_single (wf_pb (chanOf_lt _ _) _))).goodIf
  | key => exact (absKey_good hd' _ _ _ _).goodIf
  | action => exact (absAction_good hd' _ _ _).goodIf

theorem handleAbs_good {cfg : Config} (hacc : Accepted cfg = true) {d : Dev} (hd : DevOK cfg d)
    (sub : Sub) (node : String) (code : Code) (raw : Int) :
    GoodIf (evInRange cfg (StObs.ofDev d) (.abs sub node code raw) = true) cfg
      (d.handleAbs sub node code raw) := by
  have hcfg := hd.cfg_eq
  subst hcfg
  cases hm : d.curMap with
  | none => rw [handleAbs_crash hm]; exact (Good.mk hd (WF_single rfl)).goodIf
  | some m =>
    cases ha : alookup (sub, code) m.analog with
    | none => rw [handleAbs_miss hm ha]; exact (releaseAxis_good hd code).goodIf
    | some a =>
      rw [BodiesTie.handleAbs_model d m a sub node code raw hm ha]
      have gP : Good d.cfg (if a.kind = AKind.key then (d, ([] : List Out)) else d.releaseAxis code) :=
        iteInduction (fun _ => Good.nil hd) fun _ => releaseAxis_good hd code
      unfold BodiesTie.tailA
      cases hdz : m.deadzone sub code with
      | none => exact (Good.mk gP.1 (WF_append gP.2 (WF_single rfl))).goodIf
      | some dz =>
        -- in range means `axisOK` of this entry's axis, which puts the flipped value into `vRange`
        have hR : evInRange d.cfg (StObs.ofDev d) (.abs sub node code raw) = true →
            axisOK ((alookup (node, code) d.cfg.axes).getD (0, 0)).1
              ((alookup (node, code) d.cfg.axes).getD (0, 0)).2 a.dzCenter dz raw = true := fun h => by
          simpa only [evInRange, StObs.ofDev, show d.cfg.maps[d.mapping]? = some m from hm, ha, hdz] using h
        exact GoodIf.seq gP.2 (tailW_good gP.1 (EngineSim.analog_ok_of_lookup hacc (List.mem_of_getElem? hm) ha) sub code _ _
          fun r => flipped_range a.flip (by rw [gP.1.cfg_eq]; exact hR r))

theorem step_good {cfg : Config} (hacc : Accepted cfg = true) {d : Dev} (hd : DevOK cfg d) (e : Ev) :
    GoodIf (evInRange cfg (StObs.ofDev d) e = true) cfg (d.step e) := by
  refine Handlers.step_cases (P := GoodIf (evInRange cfg (StObs.ofDev d) e = true) cfg) d e
    (fun _ => (Good.nil hd).goodIf) (fun _ => (Good.nil hd).goodIf) (fun _ _ _ => (Good.nil hd).goodIf)
    (fun s c v _ _ => (handleKey_good hd s c v).goodIf) (fun s n c v he => he ▸ handleAbs_good hacc hd s n c v)
    (fun _ _ _ _ _ => (Good.nil hd).goodIf)

theorem C05_init (cfg : Config) (hacc : Accepted cfg = true) : DevOK cfg (Dev.init cfg) := by
  refine ⟨rfl, EngineSim.accepted_ch hacc, (EngineSim.accepted_vel hacc).1, (EngineSim.accepted_vel hacc).2,
    EngineSim.accepted_defMap hacc, ?_, ?_⟩ <;> (intro p hp; cases hp)

theorem init_not_dead (cfg : Config) : (Dev.init cfg).dead = false := rfl

theorem C05_step_ok (cfg : Config) (hacc : Accepted cfg = true) (d : Dev) (e : Ev)
    (hd : DevOK cfg d) : DevOK cfg (d.step e).1 :=
  (step_good hacc hd e).1

/-- the property for one step -/
theorem C05_step (cfg : Config) (hacc : Accepted cfg = true) (d : Dev) (e : Ev) (hd : DevOK cfg d)
    (hr : evInRange cfg (StObs.ofDev d) e = true) : ∀ o ∈ (d.step e).2, wellFormed o = true :=
  (step_good hacc hd e).2 hr

theorem cleanupWith_good {cfg : Config} {d : Dev} (hd : DevOK cfg d) (order : List Code) (aorder : List (Code × Bool)) :
    Good cfg (d.cleanupWith order aorder) :=
  Handlers.cleanupWith_rule (good_seq cfg) (fun _ c h => noteOff_good h c) (fun _ id h => analogNoteOff_good h id) d order
    aorder hd

/-- the property for the disconnect clean-up -/
theorem C05_cleanup (cfg : Config) (d : Dev) (hd : DevOK cfg d) :
    ∀ o ∈ d.cleanup.2, wellFormed o = true := by
  unfold Dev.cleanup
  split
  · exact WF_nil
  · exact (cleanupWith_good hd _ _).2

theorem run_cons (d : Dev) (e : Ev) (es : List Ev) :
    d.run (e :: es) = (((d.step e).1.run es).1, (d.step e).2 :: ((d.step e).1.run es).2) := rfl

theorem run_wf {cfg : Config} (hacc : Accepted cfg = true) :
    ∀ (evs : List Ev) (d : Dev), DevOK cfg d →
      (∀ i (h : i < evs.length), evInRange cfg (StObs.ofDev (d.run (evs.take i)).1) evs[i] = true) →
      ∀ os ∈ (d.run evs).2, ∀ o ∈ os, wellFormed o = true
  | [], d, _, _ => by
    intro os hos; cases hos
  | e :: es, d, hd, hr => by
    intro os hos
    rw [run_cons] at hos
    rcases List.mem_cons.mp hos with rfl | hos
    · have h0 := hr 0 (by simp)
      exact C05_step cfg hacc d e hd h0
    · refine run_wf hacc es (d.step e).1 (C05_step_ok cfg hacc d e hd) ?_ os hos
      intro i hi
      have := hr (i + 1) (by simp; omega)
      simpa [run_cons] using this

/-- the property for whole histories: if every event is in range at the state it meets, every
    emitted message is well-formed -/
theorem C05_run (cfg : Config) (hacc : Accepted cfg = true) (evs : List Ev)
    (hr : ∀ i (h : i < evs.length),
      evInRange cfg (StObs.ofDev ((Dev.init cfg).run (evs.take i)).1) evs[i] = true) :
    ∀ os ∈ ((Dev.init cfg).run evs).2, ∀ o ∈ os, wellFormed o = true :=
  run_wf hacc evs (Dev.init cfg) (C05_init cfg hacc) hr

theorem C05_run_ok (cfg : Config) (hacc : Accepted cfg = true) (evs : List Ev) :
    DevOK cfg ((Dev.init cfg).run evs).1 :=
  Handlers.run_induction (fun d e _ hd => C05_step_ok cfg hacc d e hd) (C05_init cfg hacc)

/-! ### non-vacuity: an accepted configuration with an axis, and an axis event in range -/

def exCfg : Config :=
  { maps := [{ name := "m", midi := [(("", 30), ⟨60, 0⟩)],
               analog := [(("", 0), { kind := .cc, cc := 1, ccNeg := 2, note := 0, noteNeg := 0, chOff := 0,
                                      chOffNeg := 0, act := .none, actNeg := .none, flip := false,
                                      bidir := false, dzCenter := false })],
               dz := [], defDz := [("", 1/4)] }],
    actions := [], exitSeq := [], mode := .off, defOct := 0, defSemi := 0, defCh := 1, defMap := 0,
    vel := 64, axes := [(("js", 0), (-128, 127))] }

theorem exCfg_accepted : Accepted exCfg = true := by decide

theorem exCfg_inRange :
    evInRange exCfg (StObs.ofDev (Dev.init exCfg)) (.abs "" "js" 0 100) = true := by
  have : axisOK (-128) 127 false (1/4) 100 = true := axisOK_iff.mpr (by norm_num)
  simpa [evInRange, StObs.ofDev, Dev.init, exCfg, alookup, Mapping.deadzone] using this

example : ∀ os ∈ ((Dev.init exCfg).run [.abs "" "js" 0 100]).2, ∀ o ∈ os, wellFormed o = true :=
  C05_run exCfg exCfg_accepted _ (by
    intro i h
    have : i = 0 := by simpa using h
    subst this
    exact exCfg_inRange)

end Hidi.Props.C05
