/-
  C12 — Config selection: user over factory, specific over default, bad files isolated.
  Theorems about `Hidi.findConfig`, `Hidi.loadDir`, `Hidi.loadAll`, for all inputs.

  * `C12_precedence_keyboard/joystick` : `findConfig` is `pickSpec`, the four-step order user exact → user default → factory
                          exact → factory default with `notFound` as its last branch, on the keyboard maps for keyboards
                          and on the gamepad maps for joysticks; spelled out for keyboards: `C12_user_over_factory`, and
                          `C12_not_found_iff` (`notFound` iff none of the four exists);
  * `C12_unsupported`   : any other device type is `unsupported` whatever is configured;
  * `C12_isolation`     : the result of a directory is that of its walk with every entry dropped that is a directory, does
                          not carry the `.toml` suffix (any case), or fails to parse — so adding or removing such an entry
                          anywhere in the tree changes nothing (`C12_bad_entry_irrelevant`);
  * `C12_never_panics`  : `LoadDeviceConfigs` yields a result or an error for every combination of present / missing
                          directories; a missing directory is an error (`C12_missing_is_error`).
-/
import HidiProofs.AList
import Hidi.Loader
namespace Hidi.Props.C12
open Hidi

def pickSpec (user fact : List (InputID × String)) (id : InputID) : Except FindErr (String × String) :=
  match alookup id user with
  | some f => .ok (f, "user")
  | none =>
    match alookup zeroID user with
    | some f => .ok (f, "user")
    | none =>
      match alookup id fact with
      | some f => .ok (f, "factory")
      | none =>
        match alookup zeroID fact with
        | some f => .ok (f, "factory")
        | none => .error .notFound

/-- **precedence, keyboards**: user exact, user default, factory exact, factory default — from the keyboard directories -/
theorem C12_precedence_keyboard (c : DeviceConfigs) (id : InputID) :
    findConfig c id .keyboard = pickSpec c.userKeyboards c.factoryKeyboards id := by
  unfold findConfig pickSpec
  simp only []
  -- each `cases` goes on in its `none` goal only: five goals, one per outcome of the chain
  cases alookup id c.userKeyboards; cases alookup zeroID c.userKeyboards
  cases alookup id c.factoryKeyboards; cases alookup zeroID c.factoryKeyboards
  all_goals rfl

/-- **precedence, joysticks**: the same order, from the gamepad directories -/
theorem C12_precedence_joystick (c : DeviceConfigs) (id : InputID) :
    findConfig c id .joystick = pickSpec c.userGamepads c.factoryGamepads id :=
  -- `findConfig` runs one and the same `pick`, for joysticks on the gamepad maps
  C12_precedence_keyboard ⟨[], c.factoryGamepads, [], c.userGamepads⟩ id

/-- any other device type is unsupported, whatever files exist -/
theorem C12_unsupported (c : DeviceConfigs) (id : InputID) (ty : DevType) (h1 : ty ≠ .keyboard) (h2 : ty ≠ .joystick) :
    findConfig c id ty = .error .unsupported := by
  cases ty <;> simp_all [findConfig]

/-- for keyboards: a user file, exact or default, beats any factory file -/
theorem C12_user_over_factory (c : DeviceConfigs) (id : InputID) (f : String)
    (h : alookup id c.userKeyboards = some f ∨ (alookup id c.userKeyboards = none ∧ alookup zeroID c.userKeyboards = some f)) :
    findConfig c id .keyboard = .ok (f, "user") := by
  rw [C12_precedence_keyboard]
  unfold pickSpec
  rcases h with h | ⟨h1, h2⟩
  · rw [h]
  · rw [h1, h2]

/-- for keyboards: `notFound` exactly when none of the four candidates exists -/
theorem C12_not_found_iff (c : DeviceConfigs) (id : InputID) :
    findConfig c id .keyboard = .error .notFound ↔
      alookup id c.userKeyboards = none ∧ alookup zeroID c.userKeyboards = none ∧
      alookup id c.factoryKeyboards = none ∧ alookup zeroID c.factoryKeyboards = none := by
  rw [C12_precedence_keyboard]
  unfold pickSpec
  cases alookup id c.userKeyboards; cases alookup zeroID c.userKeyboards
  cases alookup id c.factoryKeyboards; cases alookup zeroID c.factoryKeyboards
  all_goals simp

/-- entries that can contribute a configuration -/
def good (e : Entry) : Bool :=
  !e.isDir && hasTomlSuffix (e.path.getLast?.getD "") && (match e.outcome with | .ok _ => true | .fail => false)

def stepL (m : List (InputID × String)) (e : Entry) : List (InputID × String) :=
  if e.isDir then m else
  let name := e.path.getLast?.getD ""
  if ¬ hasTomlSuffix name then m else
  match e.outcome with
  | .fail => m
  | .ok id => ainsert id name m

theorem loadDir_eq (es : List Entry) : loadDir es = (sortEntries es).foldl stepL [] := rfl

theorem stepL_cases (m : List (InputID × String)) (e : Entry) :
    (good e = false ∧ stepL m e = m) ∨
      ∃ id, good e = true ∧ e.outcome = .ok id ∧ stepL m e = ainsert id (e.path.getLast?.getD "") m := by
  unfold stepL good
  simp only []
  cases e.isDir
  · cases hasTomlSuffix (e.path.getLast?.getD "")
    · exact .inl ⟨rfl, rfl⟩
    · cases e.outcome with
      | fail => exact .inl ⟨rfl, rfl⟩
      | ok id => exact .inr ⟨id, rfl, rfl, rfl⟩
  · exact .inl ⟨rfl, rfl⟩

theorem foldl_filter_good (l : List Entry) : ∀ m, l.foldl stepL m = (l.filter good).foldl stepL m := by
  induction l with
  | nil => intro m; rfl
  | cons e r ih =>
    intro m
    rw [List.foldl_cons, List.filter_cons]
    rcases stepL_cases m e with ⟨hg, hs⟩ | ⟨_, hg, -, -⟩
    · rw [hs, hg]; exact ih m
    · rw [hg]; exact ih _

theorem insertEntry_split (e : Entry) (r : List Entry) :
    ∃ l1 l2, r = l1 ++ l2 ∧ insertEntry e r = l1 ++ e :: l2 := by
  induction r with
  | nil => exact ⟨[], [], rfl, rfl⟩
  | cons x r ih =>
    simp only [insertEntry]
    split
    · exact ⟨[], x :: r, rfl, rfl⟩
    · obtain ⟨l1, l2, h1, h2⟩ := ih
      exact ⟨x :: l1, l2, by rw [h1]; rfl, by rw [h2]; rfl⟩

theorem mem_insertEntry {x e : Entry} {r : List Entry} : x ∈ insertEntry e r ↔ x = e ∨ x ∈ r := by
  obtain ⟨l1, l2, h1, h2⟩ := insertEntry_split e r
  rw [h2, h1]
  simp only [List.mem_append, List.mem_cons, or_left_comm]

theorem mem_sortEntries {x : Entry} {l : List Entry} : x ∈ sortEntries l ↔ x ∈ l := by
  induction l with
  | nil => exact Iff.rfl
  | cons y r ih =>
    rw [show sortEntries (y :: r) = insertEntry y (sortEntries r) from rfl, mem_insertEntry, ih, List.mem_cons]

/-- **isolation (on the walk)**: the result of a directory is the result of the walk with every entry dropped that is a
    directory, lacks the `.toml` suffix, or fails to parse -/
theorem C12_isolation (es : List Entry) :
    loadDir es = ((sortEntries es).filter good).foldl stepL [] := by
  rw [loadDir_eq]; exact foldl_filter_good _ _

/-- **a bad entry changes nothing**: adding a directory, a non-TOML file or a file that fails to parse — with any name,
    anywhere in the tree — leaves the result of the directory as it was -/
theorem C12_bad_entry_irrelevant (b : Entry) (es : List Entry) (hb : good b = false) :
    loadDir (b :: es) = loadDir es := by
  rw [C12_isolation, C12_isolation]
  have : sortEntries (b :: es) = insertEntry b (sortEntries es) := rfl
  rw [this]
  obtain ⟨l1, l2, h1, h2⟩ := insertEntry_split b (sortEntries es)
  rw [h2, h1]
  simp only [List.filter_append, List.filter_cons, hb, Bool.false_eq_true, if_false]

/-- only good entries can put an identifier into the result -/
theorem C12_result_from_good (es : List Entry) (id : InputID) (f : String) (h : (id, f) ∈ loadDir es) :
    ∃ e ∈ es, good e = true ∧ e.outcome = .ok id ∧ e.path.getLast?.getD "" = f := by
  rw [loadDir_eq] at h
  have hmem : ∀ (l : List Entry) (m : List (InputID × String)), (id, f) ∈ l.foldl stepL m →
      (id, f) ∈ m ∨ ∃ e ∈ l, good e = true ∧ e.outcome = .ok id ∧ e.path.getLast?.getD "" = f := by
    intro l
    induction l with
    | nil => exact fun m hm => .inl hm
    | cons e r ih =>
      intro m hm
      rcases ih _ hm with h1 | ⟨e', he', h2⟩
      · rcases stepL_cases m e with ⟨-, hs⟩ | ⟨id', hg, ho, hs⟩ <;> rw [hs] at h1
        · exact .inl h1
        · rcases mem_ainsert.mp h1 with h3 | h3
          · exact .inl h3.1
          · cases h3; exact .inr ⟨e, List.mem_cons_self, hg, ho, rfl⟩
      · exact .inr ⟨e', List.mem_cons_of_mem _ he', h2⟩
  rcases hmem _ _ h with h0 | ⟨e, he, h2⟩
  · cases h0
  · exact ⟨e, mem_sortEntries.mp he, h2⟩

/-- **never a crash**: for every combination of present / missing directories the loader returns a value or an error -/
theorem C12_never_panics (fg fk ug uk : Root) : loadAll fg fk ug uk ≠ .panic := by
  unfold loadAll
  split <;> simp

theorem C12_missing_is_error (fg fk ug uk : Root)
    (h : fg.present = false ∨ fk.present = false ∨ ug.present = false ∨ uk.present = false) :
    loadAll fg fk ug uk = .err := by
  unfold loadAll
  rw [if_pos]
  rcases h with h | h | h | h <;> simp [h]

/-! ### non-vacuity -/

def exEntries : List Entry :=
  [⟨["b.toml"], false, .ok (3, 1, 2, 3)⟩, ⟨["a.TOML"], false, .ok (0, 0, 0, 0)⟩, ⟨["broken.toml"], false, .fail⟩,
   ⟨["c.txt"], false, .ok (3, 1, 2, 3)⟩, ⟨["z.toml"], true, .fail⟩, ⟨["zz.toml"], false, .ok (3, 1, 2, 3)⟩]

example : loadDir exEntries = [((0, 0, 0, 0), "a.TOML"), ((3, 1, 2, 3), "zz.toml")] := by decide +kernel
example : findConfig ⟨[], [((3, 1, 2, 3), "f.toml")], [], [((0, 0, 0, 0), "u0.toml")]⟩ (3, 1, 2, 3) .keyboard =
    .ok ("u0.toml", "user") := by rfl

end Hidi.Props.C12
