/-
  C16, termination clause — "processing for a device always ends promptly once its event stream ends and leaves no
  background activity behind, whatever it was doing".  Theorems about the life-cycle transition system `Hidi.Life`
  (three goroutines, two mutexes), for every schedule:

  * `C16_life_source_facts`   : the structural facts the model is built from, regenerated from the sources on every run:
                                every waiting loop of `handleOpenrgb` / `handleInputEvents` has a `ctx.Done()` case that
                                leaves it; `ProcessEvents` does range → cancel → clean-up under the event mutex → `wg.Wait()`;
                                both handlers `defer wg.Done()`; the only lock nesting is event mutex ⊃ tracker mutex;
  * `C16_life_mutual_exclusion` : in every reachable state each mutex has at most one holder, and the tracker mutex is taken
                                by the main and the LED goroutine only inside the event mutex (one lock order: no cycle);
  * `C16_life_wait_means_finished` : `ProcessEvents` returns only after both other goroutines have returned;
  * `C16_life_terminates`     : from **every** reachable state in which the input has ended — whichever goroutine holds
                                whichever mutex, a panic being handled, a frame being painted, a MIDI message being
                                recorded — at most 973 further steps of the three goroutines themselves (no input, no MIDI
                                message needed), each enabled when taken, bring all three to their end;
  * `C16_life_no_deadlock`    : in particular, once the input has ended, one of the three can move as long as not all have
                                finished.
-/
import HidiProofs.LifeLemmas
import Hidi.Gen.Tables
namespace Hidi.Props.C16
open Hidi Hidi.Life Hidi.LifeLemmas

theorem C16_life_source_facts :
    Gen.lifeLedLoopsWatchCtx = true ∧ Gen.lifeMidiInLoopsWatchCtx = true ∧ Gen.lifeProcessEventsOrderOK = true ∧
    Gen.lifeHandlersDeferDone = true ∧
    Gen.deviceLockNesting = [("ProcessEvents", "eventProcessMutex", "externalTrackerMutex"),
                             ("handleOpenrgb", "eventProcessMutex", "externalTrackerMutex")] :=
  ⟨rfl, rfl, rfl, rfl, rfl⟩

/-- **mutual exclusion and lock order**, every schedule -/
theorem C16_life_mutual_exclusion (steps : List Step) :
    let s := run {} steps
    ¬ (mainHoldsE s.main = true ∧ ledHoldsE s.led = true) ∧
    ¬ (mainHoldsX s.main = true ∧ ledHoldsX s.led = true) ∧ ¬ (mainHoldsX s.main = true ∧ midiHoldsX s.midi = true) ∧
    ¬ (ledHoldsX s.led = true ∧ midiHoldsX s.midi = true) ∧
    (mainHoldsX s.main = true → mainHoldsE s.main = true) ∧ (ledHoldsX s.led = true → ledHoldsE s.led = true) := by
  intro s
  obtain ⟨hE, hX, -⟩ := run_inv steps _ inv_init
  -- the lock order needs no invariant: it can be read off the program counters
  have nM : ∀ m, mainHoldsX m = true → mainHoldsE m = true := by decide
  have nL : ∀ l, ledHoldsX l = true → ledHoldsE l = true := by decide
  refine ⟨?_, ?_, ?_, ?_, nM _, nL _⟩ <;> rintro ⟨a, b⟩ <;> simp [holdersE, holdersX, s, a, b] at hE hX <;> omega

/-- `ProcessEvents` has returned only if the LED goroutine and the MIDI-input goroutine have returned: nothing is left behind -/
theorem C16_life_wait_means_finished (steps : List Step) :
    (run {} steps).main = .done → (run {} steps).led = .done ∧ (run {} steps).midi = .done :=
  (run_inv steps _ inv_init).2.2

/-- **termination** from every reachable state once the input has ended -/
theorem C16_life_terminates (steps : List Step) :
    let s := run {} steps
    s.closed = true →
    ∃ sched : List Step, sched.length ≤ 973 ∧ GoodSchedule s sched ∧ allDone (run s sched) = true := by
  intro s hc
  obtain ⟨h1, h2⟩ := driveSteps_spec 974 s (run_inv steps _ inv_init) hc (Nat.lt_succ_of_le (measure_le s))
  exact ⟨_, Nat.le_trans h1 (measure_le s), h2⟩

/-- **no deadlock** after the input has ended: a goroutine step is enabled as long as not all three have finished -/
theorem C16_life_no_deadlock (steps : List Step) :
    let s := run {} steps
    s.closed = true → allDone s = false → ∃ x, enabled s x = true ∧ x ≠ .unplug ∧ x ≠ .midiArrives ∧ ∀ p, x ≠ .mainTake p := by
  intro s hc hnd
  exact ⟨_, (helper_ok s (run_inv steps _ inv_init) hc hnd).1, helper_internal s⟩

/-! ### non-vacuity: unplugged while the main goroutine handles a panic (holds the event mutex, wants the tracker mutex),
    the MIDI-input goroutine holds the tracker mutex, and the LED goroutine waits for the event mutex -/

def nasty : List Step :=
  [.ledConnected, .ledCheck, .ledWake, .midiArrives, .midiLockX, .mainTake true, .mainLockE, .unplug]

example : run {} nasty = ⟨.inE true, .wantE, .inX, true⟩ := by decide
example : driveSteps 973 (run {} nasty) =
    [.midiUnlockX, .mainLockX, .mainUnlockX, .mainUnlockE, .mainSeeClosed, .mainCancel, .mainLockEc, .mainUnlockEc,
     .ledLockE, .ledLockX, .ledUnlockX, .ledUnlockE, .ledCheck, .ledClose, .midiSeeCancel, .mainWaitDone] := by decide

end Hidi.Props.C16
