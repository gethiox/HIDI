/-
  C06, accuracy clause — "within one step of the exact value".

  * `C06_shape_accuracy` : for every axis whose reported range fits in 32 bits (evdev values are `int32`), every
    deadzone in [0, 1), every position: the binary64 shaped value is within 2⁻¹⁷ of the exact rational
    `Spec.idealShape` (the reference the trace monitor `Spec.checkAbs` uses);
  * `C06_cc_accuracy`, `C06_pb_accuracy` : hence the transmitted 7-bit controller value / 14-bit pitch-bend value
    differs by at most one from the ideal `Spec.idealValue`, in all of the signed/unsigned × uni/bidirectional cases,
    flipped or not: the mode is a variable of `ccArg_close`, and an unsigned pitch-bend axis is `centre true` of a
    signed one.
-/
import HidiProofs.AxisAccuracy
import HidiProofs.AxisKeyLemmas
import HidiProofs.Props.C06
namespace Hidi.Props.C06
open Hidi Hidi.Spec Hidi.FloatLemmas Hidi.AxisLemmas Hidi.AxisAccuracy
open Hidi.AxisKeyLemmas (ccArg)

def δ : ℚ := (2:ℚ)^(-17:ℤ)

/-- **accuracy of the shaped value**: within 2⁻¹⁷ of the exact rational transfer function -/
theorem C06_shape_accuracy {mn mx : Int} {dzc : Bool} {dz : ℚ} {raw : Int} (h : axisOK mn mx dzc dz raw = true)
    (hmx : mx ≤ 2 ^ 31) (hmn : -(2 ^ 31) ≤ mn) :
    |shapeRaw mn mx dzc dz raw - idealShape mn mx dzc dz raw| ≤ δ :=
  shape_accuracy h hmx hmn

/-- `ccArg` in exact arithmetic -/
def ccArgI (bidir canNeg : Bool) (v : ℚ) : ℚ :=
  if canNeg then (if bidir then rabs v else (v + 1) / 2) else (if bidir then rabs (v * 2 - 1) else v)

theorem scale_close {v vi e : ℚ} (h : |v - vi| ≤ e) (h0 : -1 ≤ v) (h1 : v ≤ 1) :
    |fdiv (fadd v 1) 2 - (vi + 1) / 2| ≤ e / 2 + 2 * U := by
  have hv2 : |v + 1| ≤ 2 := by rw [abs_le]; constructor <;> linarith
  have a3 := rnd_close (lin_close (c := 1) zero_le_one (by ring : v + 1 - (vi + 1) = 1 * (v - vi)) h) hv2
  have c2 : |rnd53 (v + 1) / 2| ≤ 1 := by
    have := abs_rnd53_le rnd53_two hv2
    rw [abs_le] at this ⊢; constructor <;> linarith [this.1, this.2]
  have := rnd_close (lin_close (c := 1/2) (by norm_num)
    (by ring : rnd53 (v + 1) / 2 - (vi + 1) / 2 = 1/2 * (rnd53 (v + 1) - (vi + 1))) a3) c2
  unfold fdiv fadd
  linarith

theorem ccArg_close {bidir canNeg : Bool} {V v e : ℚ} (hr : vRange canNeg V) (h : |V - v| ≤ e) :
    |ccArg bidir canNeg V - ccArgI bidir canNeg v| ≤ 2 * e + 5 * U := by
  obtain ⟨h0, l, u⟩ := hr
  have hU := U_pos
  have he : 0 ≤ e := le_trans (abs_nonneg _) h
  cases canNeg <;> cases bidir <;> simp only [ccArg, ccArgI, if_true, Bool.false_eq_true, if_false, rabs_eq]
  · linarith
  · have := centre_close (dzc := true) h (abs_le.mpr ⟨l, u⟩)
    exact le_trans (abs_abs_sub_abs_le_abs_sub _ _) this
  · have := scale_close h l u; linarith
  · have := abs_abs_sub_abs_le_abs_sub V v; linarith

theorem floor_close {p q : ℚ} (h : |p - q| < 1) : |⌊p⌋ - ⌊q⌋| ≤ 1 := by
  rw [abs_lt] at h
  have a1 := Int.floor_le p
  have a2 := Int.lt_floor_add_one p
  have b1 := Int.floor_le q
  have b2 := Int.lt_floor_add_one q
  have c1 : ⌊q⌋ < ⌊p⌋ + 2 := by exact_mod_cast (show (⌊q⌋ : ℚ) < ⌊p⌋ + 2 by linarith [h.1, h.2])
  have c2 : ⌊p⌋ < ⌊q⌋ + 2 := by exact_mod_cast (show (⌊p⌋ : ℚ) < ⌊q⌋ + 2 by linarith [h.1, h.2])
  rw [abs_le]; constructor <;> omega

theorem fmul_close {K a ai e : ℚ} (hK : 0 ≤ K) (h0 : 0 ≤ a) (h1 : a ≤ 1) (h : |a - ai| ≤ e) :
    |fmul K a - K * ai| ≤ K * e + K * U :=
  rnd_close (lin_close hK (mul_sub K a ai).symm h)
    (by rw [abs_mul, abs_of_nonneg hK, abs_of_nonneg h0]; exact mul_le_of_le_one_right hK h1)

/-- within 2⁻⁸ the products by 127 differ by less than 1, so their integer parts by at most one step -/
theorem cc_close {a ai : ℚ} (h0 : 0 ≤ a) (h1 : a ≤ 1) (h : |a - ai| ≤ (2:ℚ)^(-8:ℤ)) :
    |(ccByte a : ℤ) - ⌊127 * ai⌋| ≤ 1 := by
  obtain ⟨l, u⟩ := ftrunc127_range h0 h1
  obtain ⟨l', _⟩ := fmul127_range h0 h1
  have e1 : (ccByte a : ℤ) = ⌊fmul 127 a⌋ := by
    rw [← show ftrunc (fmul 127 a) = ⌊fmul 127 a⌋ by rw [ftrunc_eq, if_neg (by linarith)]]
    unfold ccByte u8; omega
  rw [e1]
  apply floor_close
  have := fmul_close (K := 127) (by norm_num) h0 h1 h
  rw [U_val] at this
  norm_num [zpow_neg] at this
  linarith

/-- the specification's rounding to the nearest integer is the model's `math.Round` -/
theorem rround_eq : rround = fround := rfl

/-- the 14-bit pitch-bend value is rounded to nearest; the ideal value may be a hair below 0, where rounding half away
    from zero and `⌊· + 1/2⌋` still agree -/
theorem pb_close {s si : ℚ} (h0 : 0 ≤ s) (h1 : s ≤ 1) (h : |s - si| ≤ (2:ℚ)^(-15:ℤ)) :
    |fround (fmul 16383 s) - rround (16383 * si)| ≤ 1 := by
  have hp : 0 ≤ fmul 16383 s := rnd53_nonneg (by linarith)
  have hd := fmul_close (K := 16383) (by norm_num) h0 h1 h
  rw [U_val] at hd
  norm_num [zpow_neg] at hd
  have hsi : -1/2 < 16383 * si := by linarith [(abs_le.mp hd).2]
  rw [fround_eq_floor (by linarith), rround_eq, fround_eq_floor hsi]
  apply floor_close
  rw [add_sub_add_right_eq_sub]
  linarith

theorem flip_close {canNeg flip : Bool} {W w e : ℚ} (h : |W - w| ≤ e) (hW : |W| ≤ 1) :
    |flipVal canNeg flip W - idealFlip canNeg flip w| ≤ e + 2 * U := by
  have hU := U_pos
  rw [abs_sub_comm] at h
  cases flip <;> cases canNeg <;> simp only [flipVal, idealFlip, if_true, Bool.false_eq_true, if_false, fsub]
  · rw [abs_sub_comm]; linarith
  · rw [abs_sub_comm]; linarith
  · exact rnd_close (by simpa using lin_close (c := 1) zero_le_one (by ring : 1 - W - (1 - w) = 1 * (w - W)) h)
      (by rw [abs_le] at hW ⊢; constructor <;> linarith [hW.1, hW.2])
  · have := lin_close (c := 1) zero_le_one (by ring : -W - -w = 1 * (w - W)) h; linarith

theorem flipped_close {mn mx : Int} {dzc : Bool} {dz : ℚ} {raw : Int} (h : axisOK mn mx dzc dz raw = true)
    (hmx : mx ≤ 2 ^ 31) (hmn : -(2 ^ 31) ≤ mn) (canNeg flip : Bool) :
    |flipVal canNeg flip (shapeRaw mn mx dzc dz raw) - idealFlip canNeg flip (idealShape mn mx dzc dz raw)| ≤
      (2:ℚ)^(-16:ℤ) := by
  have := flip_close (canNeg := canNeg) (flip := flip) (C06_shape_accuracy h hmx hmn) (abs_le.mpr (C06_shape_range h))
  rw [U_val] at this
  norm_num [δ, zpow_neg] at this ⊢
  linarith

/-- the controller value `Dev.absCC` transmits first -/
def sentCC (a : Analog) (canNeg : Bool) (v : ℚ) : Nat :=
  if canNeg then (if a.bidir then ccByte (rabs v) else ccByte (fdiv (fadd v 1) 2))
  else (if a.bidir then ccByte (rabs (fsub (fmul v 2) 1)) else ccByte v)

theorem sentCC_eq (a : Analog) (canNeg : Bool) (v : ℚ) : sentCC a canNeg v = ccByte (ccArg a.bidir canNeg v) := by
  unfold sentCC ccArg; split_ifs <;> rfl

theorem absCC_sends (d : Dev) (a : Analog) (canNeg : Bool) (v : ℚ) :
    ∃ ch cc rest, (d.absCC a canNeg v).2 = ccEvent ch cc (sentCC a canNeg v) :: rest := by
  rw [sentCC_eq, AxisKeyLemmas.absCC_eq]
  cases a.bidir <;> simp only [if_true, Bool.false_eq_true, if_false]
  · exact ⟨_, _, [], rfl⟩
  · generalize (if canNeg = true then decide (v < 0) else decide (v < 1/2)) = neg
    rw [AxisKeyLemmas.bidirCC_eq]
    split <;> exact ⟨_, _, _, rfl⟩

/-- **accuracy of every controller value**: for an axis mapped to a controller, whatever its range (within 32 bits),
    deadzone, flip, centring and direction mode, the value the engine transmits is within one step of the value
    `Spec.idealValue` computes in exact arithmetic -/
theorem C06_cc_accuracy (a : Analog) (hk : a.kind = .cc) {mn mx : Int} {dz : ℚ} {raw : Int}
    (h : axisOK mn mx a.dzCenter dz raw = true) (hmx : mx ≤ 2 ^ 31) (hmn : -(2 ^ 31) ≤ mn) :
    let canNeg := decide (mn < 0) || a.dzCenter
    |(sentCC a canNeg (flipVal canNeg a.flip (shapeRaw mn mx a.dzCenter dz raw)) : ℤ) -
      (idealValue a canNeg (idealFlip canNeg a.flip (idealShape mn mx a.dzCenter dz raw))).2| ≤ 1 := by
  intro canNeg
  have hr := flipped_range a.flip h
  have hc := ccArg_close (bidir := a.bidir) hr (flipped_close h hmx hmn canNeg a.flip)
  have e : ∀ v, (idealValue a canNeg v).2 = ⌊127 * ccArgI a.bidir canNeg v⌋ := fun v => by
    unfold idealValue ccArgI; rw [hk]; simp only; split_ifs <;> rfl
  rw [sentCC_eq, e]
  refine cc_close (ccArg_range hr).1 (ccArg_range hr).2 (le_trans hc ?_)
  rw [U_val]; norm_num [zpow_neg]

/-- **accuracy of every pitch-bend value** -/
theorem C06_pb_accuracy (a : Analog) (hk : a.kind = .pitchBend) {mn mx : Int} {dz : ℚ} {raw : Int}
    (h : axisOK mn mx a.dzCenter dz raw = true) (hmx : mx ≤ 2 ^ 31) (hmn : -(2 ^ 31) ≤ mn) :
    let canNeg := decide (mn < 0) || a.dzCenter
    let v := flipVal canNeg a.flip (shapeRaw mn mx a.dzCenter dz raw)
    |pbTarget (if canNeg then v else fsub (fmul v 2) 1) -
      (idealValue a canNeg (idealFlip canNeg a.flip (idealShape mn mx a.dzCenter dz raw))).2| ≤ 1 := by
  intro canNeg v
  have hr := flipped_range a.flip h
  -- an axis that cannot go negative is re-centred first: `centre (!canNeg)`
  have e2 : ∀ w, (idealValue a canNeg w).2 = rround (16383 * ((centreI (!canNeg) w + 1) / 2)) := fun w => by
    unfold idealValue; rw [hk]; cases canNeg <;> rfl
  obtain ⟨c0, c1⟩ := recentred_range hr
  obtain ⟨s0, s1⟩ := C06_signed_scale c0 c1
  have hc := scale_close (centre_close (dzc := !canNeg) (flipped_close h hmx hmn canNeg a.flip) (abs_le.mpr hr.2)) c0 c1
  rw [← centre_not, e2]
  refine pb_close s0 s1 (le_trans hc ?_)
  rw [U_val]; norm_num [zpow_neg]

/-! ### non-vacuity -/

example : axisOK (-32768) 32767 false (rnd53 (1/20)) 12345 = true := by
  have a : 0 ≤ rnd53 (1/20) := rnd53_nonneg (by norm_num)
  have b : rnd53 (1/20) ≤ 1/2 := rnd53_le_of_le rnd53_half (by norm_num)
  exact axisOK_iff.mpr ⟨by norm_num, by norm_num, by norm_num, by norm_num, by simp, a, by linarith⟩
example : (32767 : Int) ≤ 2 ^ 31 ∧ -(2 ^ 31 : Int) ≤ -32768 := by norm_num
/-- a deadzone closer to 1 than 2⁻³² is inside the quantifier too (second regime of `AxisAccuracy.shape_accuracy`) -/
example : axisOK 0 255 true (1 - 1 / 2 ^ 40) 17 = true := axisOK_iff.mpr (by norm_num)

end Hidi.Props.C06
