/-
  C15 — MIDI transport: in order, exactly once; device removal always completes.
  Theorems about the transition systems of `Hidi.Fan`.
-/
import HidiProofs.FanLive
import Hidi.Gen.Tables
namespace Hidi.Props.C15
open Hidi Hidi.Fan Hidi.FanLemmas

/-- the source-dependent parameter of the fan-out model, regenerated from fan.go on every run: the broadcast send is
    one case of a `select` whose other case is a per-output signal -/
theorem C15_source_facts : Gen.fanSendGuarded = true := by decide

def init (guarded : Bool) (cap : Nat) : St := { guarded := guarded, cap := cap }

/-- the schedule that wedges the unguarded fan-out: one consumer that never reads, two messages, then its removal -/
def wedge : List Step := [.spawn, .feed 1, .take, .send, .unlock, .feed 2, .take, .callDespawn 0]

/-- **the unguarded fan-out can block a removal forever**: after `wedge` the dispatcher holds the mutex and cannot send
    (buffer full); the removal cannot take the mutex, the dispatcher has no step, nothing can be spawned — what is left is
    a receive by the very consumer that stopped reading -/
theorem C15_despawn_blocks_unguarded :
    let s := run (init false 1) wedge
    s.inflight = some (2, [0]) ∧ s.pendingDespawn = [0] ∧ enabled s (.despawn 0) = false ∧
    dispatcherStep s = none ∧ enabled s .spawn = false := by decide

/-- the same schedule with the guarded send: the dispatcher skips the leaving output, unlocks, and the removal returns -/
theorem C15_despawn_completes_on_wedge :
    let s := settleAll (run (init true 1) wedge)
    s.inflight = none ∧ enabled s (.despawn 0) = true ∧ (step s (.despawn 0)).pendingDespawn = [] := by decide

open Hidi.FanLive in
/-- **removal always completes, even if the removed consumer has stopped reading**: in every reachable state of the
    guarded fan-out (capacity > 0) in which `DespawnOutput(id)` is pending there is a schedule of at most `2·|outputs| + 5`
    steps, each enabled when it is taken, consisting only of steps of the dispatcher (send / unlock), of the removing
    caller (the despawn itself) and of receives by consumers that have NOT been told to leave — never a receive by `id`'s
    consumer or by any other output under removal — after which the call has returned.  (`helper_progress` is the stronger
    form: the measure decreases with every such step, whichever reachable state it is taken from.) -/
theorem C15_despawn_completes (cap : Nat) (hc : 0 < cap) (steps : List Step) (id : Nat) :
    let s := run (init true cap) steps
    id ∈ s.pendingDespawn →
    ∃ sched : List Step, sched.length ≤ 2 * s.outputs.length + 5 ∧ GoodSchedule id s sched ∧
      id ∉ (run s sched).pendingDespawn := by
  intro s hp
  have hi : LInv s := run_linv steps _ (linv_init true cap)
  have hinv : Inv s := run_inv steps _ (inv_init true cap)
  have hcap : 0 < s.cap := by rw [show s.cap = cap from run_cap steps _]; exact hc
  have hg : s.guarded = true := run_guarded steps _
  obtain ⟨h1, h2, h3⟩ := driveSteps_spec id _ s hi hcap (Nat.le_refl _)
  exact ⟨_, Nat.le_trans h1 (measure_le s hinv), h2 hg, h3⟩

/-- non-vacuity: the wedge schedule reaches a state with the removal pending and the dispatcher blocked on the very
    output being removed; the schedule of the theorem is `send` (skipping the leaving output), `unlock`, `despawn` -/
example : let s := run (init true 1) wedge
    0 ∈ s.pendingDespawn ∧ Hidi.FanLive.driveSteps 0 7 s = [.send, .unlock, .despawn 0] := by decide

/-- **fan-out, every schedule**: for every output that has not been told to leave, what its consumer has been given
    (received ++ buffered) is exactly the block of the dispatch log from its spawn up to now — without the message in
    flight if the dispatcher has not reached this output yet.  No loss, no duplicate, no reordering; the statement for
    one output does not mention any other output, so attaching or detaching others cannot affect it. -/
theorem C15_fan_exactly_once (guarded : Bool) (cap : Nat) (steps : List Step) :
    let s := run (init guarded cap) steps
    ∀ id o, alookup id s.outputs = some o → o.leaving = false →
      o.got = (s.log.drop o.since).take (s.log.length - o.since - pendingBit s id) := by
  intro s id o hl hlv
  exact ((run_inv steps _ (inv_init guarded cap)).outs id o hl hlv).1

/-- when the dispatcher is idle every connected output has been given everything dispatched since it was spawned -/
theorem C15_fan_quiescent (guarded : Bool) (cap : Nat) (steps : List Step) :
    let s := run (init guarded cap) steps
    s.inflight = none → ∀ id o, alookup id s.outputs = some o → o.leaving = false → o.got = s.log.drop o.since := by
  intro s hq id o hl hlv
  have h : Served s.log (pendingBit s id) o := (run_inv steps _ (inv_init guarded cap)).outs id o hl hlv
  rw [pendingBit_none hq] at h
  exact (served_zero.mp h).1

/-- what a consumer receives is always a prefix of what it has been given: it receives in dispatch order -/
theorem C15_received_prefix (o : Output) : o.recvd <+: o.got := ⟨o.buf, rfl⟩

/-- output ids are never shared: one live output per id, in every reachable state -/
theorem C15_ids_distinct (guarded : Bool) (cap : Nat) (steps : List Step) :
    (akeys (run (init guarded cap) steps).outputs).Nodup :=
  (run_inv steps _ (inv_init guarded cap)).keys

def RInv (orig : List (List (Nat × Nat))) (r : Relay) : Prop :=
  r.todo.length = orig.length ∧
  ∀ i, i < orig.length → (r.port ++ r.queue).filter (fun m => m.1 = i) ++ r.todo.getD i [] = orig.getD i []

theorem rstep_inv (orig : List (List (Nat × Nat))) (htag : ∀ i, i < orig.length → ∀ m ∈ orig.getD i [], m.1 = i)
    (r : Relay) (x : RStep) (h : RInv orig r) : RInv orig (rstep r x) := by
  obtain ⟨hlen, hall⟩ := h
  cases x with
  | relay =>
    simp only [rstep]
    cases hq : r.queue with
    | nil => simp only; exact ⟨hlen, hall⟩
    | cons m q =>
      simp only
      refine ⟨hlen, fun i hi => ?_⟩
      have h2 := hall i hi
      rw [hq] at h2
      simpa [List.append_assoc] using h2
  | emit j =>
    simp only [rstep]
    cases hj : r.todo[j]? with
    | none => simp only; exact ⟨hlen, hall⟩
    | some l =>
      cases l with
      | nil => simp only; exact ⟨hlen, hall⟩
      | cons m rest =>
        simp only
        split
        · have hjlt : j < r.todo.length := (List.getElem?_eq_some_iff.mp hj).1
          have hgetj : r.todo.getD j [] = m :: rest := by simp [List.getD, hj]
          -- the emitted message is part of its emitter's programme, so it carries that tag and shows up under it only
          have hm : m.1 = j := htag j (hlen ▸ hjlt) m (by rw [← hall j (hlen ▸ hjlt), hgetj]; simp)
          refine ⟨by simp [hlen], fun i hi => ?_⟩
          have h2 := hall i hi
          by_cases hij : i = j
          · subst hij
            rw [show (r.todo.set i rest).getD i [] = rest by simp [List.getD, hjlt], ← h2, hgetj]
            simp [List.filter_append, hm, List.append_assoc]
          · rw [show (r.todo.set j rest).getD i [] = r.todo.getD i [] by simp [List.getD, Ne.symm hij], ← h2]
            simp [List.filter_append, show ¬ (m.1 = i) from hm ▸ Ne.symm hij, List.append_assoc]
        · exact ⟨hlen, hall⟩

theorem rrun_inv (orig : List (List (Nat × Nat))) (htag : ∀ i, i < orig.length → ∀ m ∈ orig.getD i [], m.1 = i)
    (xs : List RStep) : ∀ r, RInv orig r → RInv orig (rrun r xs) := by
  induction xs with
  | nil => intro r h; exact h
  | cons x xs ih => intro r h; exact ih _ (rstep_inv orig htag r x h)

/-- **relay, every schedule**: at any moment, for every emitter, what has reached the port or waits in the channel,
    restricted to that emitter's messages, followed by what it has not emitted yet, is exactly its programme — each
    message exactly once, in emission order, unaltered (messages tagged with their emitter) -/
theorem C15_relay_order (orig : List (List (Nat × Nat))) (cap : Nat)
    (htag : ∀ i, i < orig.length → ∀ m ∈ orig.getD i [], m.1 = i) (xs : List RStep) (i : Nat) (hi : i < orig.length) :
    let r := rrun { todo := orig, cap := cap } xs
    (r.port ++ r.queue).filter (fun m => m.1 = i) ++ r.todo.getD i [] = orig.getD i [] := by
  intro r
  have h0 : RInv orig { todo := orig, cap := cap } := ⟨rfl, fun j hj => by simp⟩
  exact (rrun_inv orig htag xs _ h0).2 i hi

/-- when everything has been emitted and relayed, the port has each emitter's programme as a subsequence in order -/
theorem C15_relay_complete (orig : List (List (Nat × Nat))) (cap : Nat)
    (htag : ∀ i, i < orig.length → ∀ m ∈ orig.getD i [], m.1 = i) (xs : List RStep) (i : Nat) (hi : i < orig.length) :
    let r := rrun { todo := orig, cap := cap } xs
    r.queue = [] → r.todo.getD i [] = [] → r.port.filter (fun m => m.1 = i) = orig.getD i [] := by
  intro r hq ht
  have := C15_relay_order orig cap htag xs i hi
  simp only [] at this
  rw [hq, ht] at this
  simpa using this

/-! ### non-vacuity -/

example : (run (init true 2) [.spawn, .feed 1, .feed 2, .take, .send, .unlock, .spawn, .take, .send, .send, .unlock,
    .consume 0, .consume 1]).outputs.map (fun p => (p.1, p.2.got)) = [(0, [1, 2]), (1, [2])] := by decide

example : (rrun { todo := [[(0, 1), (0, 2)], [(1, 1)]], cap := 1 } [.emit 0, .emit 1, .relay, .emit 1, .relay, .emit 0, .relay]).port =
    [(0, 1), (1, 1), (0, 2)] := by decide

def IInv (orig : List Nat) (r : InRelay) : Prop := r.delivered ++ r.q2 ++ r.q1 ++ r.src = orig

theorem istep_inv (orig : List Nat) (r : InRelay) (x : IStep) (h : IInv orig r) : IInv orig (istep r x) := by
  unfold IInv at *
  cases x <;> simp only [istep] <;> (repeat' split) <;> try exact h
  -- left: the three moves; the head of one segment has become the last element of the segment before it
  · rw [← h, ‹r.src = _›]; simp
  · rw [← h, ‹r.q1 = _›]; simp
  · rw [← h, ‹r.q2 = _›]; simp

theorem irun_inv (orig : List Nat) (xs : List IStep) : ∀ r, IInv orig r → IInv orig (irun r xs) := by
  induction xs with
  | nil => intro r h; exact h
  | cons x xs ih => intro r h; exact ih _ (istep_inv orig r x h)

/-- **input direction, every schedule**: whatever the interleaving of arrivals, the internal hand-over and the consumer,
    the consumer has received a prefix of the arrival sequence — nothing lost, duplicated or reordered — and the rest is
    still queued in order -/
theorem C15_input_relay_order (msgs : List Nat) (c1 c2 : Nat) (xs : List IStep) :
    let r := irun { src := msgs, cap1 := c1, cap2 := c2 } xs
    r.delivered ++ r.q2 ++ r.q1 ++ r.src = msgs ∧ r.delivered <+: msgs := by
  intro r
  have h : IInv msgs r := irun_inv msgs xs _ (by simp [IInv])
  refine ⟨h, ?_⟩
  unfold IInv at h
  exact ⟨r.q2 ++ r.q1 ++ r.src, by rw [← h]; simp⟩

example : (irun { src := [1, 2, 3], cap1 := 1, cap2 := 1 } [.arrive, .arrive, .move, .arrive, .deliver, .move]).delivered = [1] := by
  decide

end Hidi.Props.C15
