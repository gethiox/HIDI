/-
  C08 — emulated keys: an axis that behaves like two keys.

  Model: `Dev.absKey`, `Dev.analogNoteOn`, `Dev.analogNoteOff`, `Dev.releaseAxis` (`Hidi/Engine.lean`).
  `anaTr` tracks, per identifier (axis code, negative?), the (note, channel) that was switched on.
  Thresholds are tested in the order `vk ≤ -1/2`, then `-c49 < vk ∧ vk < c49`, then `1/2 ≤ vk`;
  anything else (the hysteresis bands) changes nothing.
-/
import HidiProofs.AxisKeyLemmas
import HidiProofs.AxisLemmas
namespace Hidi.Props.C08
open Hidi Hidi.Spec Hidi.AxisKeyLemmas
open Hidi.AxisLemmas (c49_pos c49_le_half)

/-- the position the thresholds are applied to: an axis that cannot go negative is re-centred first -/
abbrev vk (canNeg : Bool) (v0 : Rat) : Rat := if canNeg then v0 else fsub (fmul v0 2) 1

theorem absKey_neg (d : Dev) (a : Analog) (code : Code) (canNeg : Bool) (v0 : Rat) (h : vk canNeg v0 ≤ -1/2) :
    d.absKey a code canNeg v0 = deflect d a code true := by
  rw [absKey_eq]; exact if_pos h

theorem absKey_centre (d : Dev) (a : Analog) (code : Code) (canNeg : Bool) (v0 : Rat)
    (hn : ¬ vk canNeg v0 ≤ -1/2) (h : -c49 < vk canNeg v0 ∧ vk canNeg v0 < c49) :
    d.absKey a code canNeg v0 = d.releaseAxis code := by
  rw [absKey_eq]; exact (if_neg hn).trans (if_pos h)

theorem absKey_pos (d : Dev) (a : Analog) (code : Code) (canNeg : Bool) (v0 : Rat)
    (hn : ¬ vk canNeg v0 ≤ -1/2) (h : 1/2 ≤ vk canNeg v0) :
    d.absKey a code canNeg v0 = deflect d a code false := by
  have hc : ¬ (-c49 < vk canNeg v0 ∧ vk canNeg v0 < c49) := fun hc =>
    absurd (lt_of_lt_of_le hc.2 c49_le_half) (not_lt.mpr h)
  rw [absKey_eq]; exact (if_neg hn).trans ((if_neg hc).trans (if_pos h))

theorem absKey_band (d : Dev) (a : Analog) (code : Code) (canNeg : Bool) (v0 : Rat)
    (hn : ¬ vk canNeg v0 ≤ -1/2) (hc : ¬ (-c49 < vk canNeg v0 ∧ vk canNeg v0 < c49)) (hp : ¬ 1/2 ≤ vk canNeg v0) :
    d.absKey a code canNeg v0 = (d, []) := by
  rw [absKey_eq]; exact (if_neg hn).trans ((if_neg hc).trans (if_neg hp))

theorem offOuts_no_on (p : Option (Nat × Nat)) : ∀ o ∈ offOuts p, ∀ ch n v, v ≠ 0 → o ≠ noteEvent stNoteOn ch n v := by
  intro o ho ch n v hv
  obtain ⟨n', ch', _, rfl⟩ := mem_offOuts.mp ho
  exact noteOff_ne_noteOn _ _ _ _ _ hv

/-- `C08_pos` and `C08_neg` with the side as a variable -/
theorem deflect_spec (d : Dev) (a : Analog) (code : Code) (neg : Bool) (hb : neg = true → a.bidir = true) :
    let r := deflect d a code neg
    let note := if neg then a.noteNeg else a.note
    let off := if neg then a.chOffNeg else a.chOff
    (alookup (code, !neg) r.1.anaTr = none) ∧
    (alookup (code, neg) d.anaTr = none → 0 ≤ d.transposed note → d.transposed note ≤ 127 →
        alookup (code, neg) r.1.anaTr = some ((d.transposed note).toNat, chanOf d.channel off) ∧
        noteEvent stNoteOn (chanOf d.channel off) (d.transposed note).toNat 64 ∈ r.2) ∧
    (alookup (code, neg) d.anaTr = none → (d.transposed note < 0 ∨ 127 < d.transposed note) →
        alookup (code, neg) r.1.anaTr = none ∧ ∀ o ∈ r.2, ∀ ch n, o ≠ noteEvent stNoteOn ch n 64) ∧
    (∀ p, alookup (code, neg) d.anaTr = some p →
        alookup (code, neg) r.1.anaTr = some p ∧ ∀ o ∈ r.2, ∀ ch n, o ≠ noteEvent stNoteOn ch n 64) := by
  intro r note off
  have hne : ((code, neg) : Code × Bool) ≠ (code, !neg) := (other_ne code neg).symm
  have hno : ∀ o ∈ offOuts (alookup (code, !neg) d.anaTr), ∀ ch n, o ≠ noteEvent stNoteOn ch n 64 :=
    fun o ho ch n => offOuts_no_on _ o ho ch n 64 (by decide)
  simp only [r, deflect_eq, alookup_aerase_self, alookup_aerase_ne hne, true_and]
  refine ⟨?_, ?_, ?_⟩
  · intro hf h0 h1
    have ho := analogNoteOn_in_range d (code, neg) note off h0 h1
    rw [sideOn_fresh d a code neg hb hf, ho.1, ho.2]
    simp
  · intro hf hr
    rw [sideOn_fresh d a code neg hb hf, analogNoteOn_out_of_range d _ _ _ hr]
    exact ⟨hf, hno⟩
  · intro p hp
    rw [sideOn_tracked d a code neg p hp]
    exact ⟨hp, hno⟩

/-- positive deflection: the negative identifier is not tracked afterwards; the positive identifier, if it was not
    tracked, becomes tracked with the transposed note exactly when that note is in 0..127 (with the Note On in the
    output); if it was tracked it stays as it was and there is no second Note On (once per excursion) -/
theorem C08_pos (d : Dev) (a : Analog) (code : Code) (canNeg : Bool) (v0 : Rat)
    (h : 1/2 ≤ vk canNeg v0) (hn : ¬ vk canNeg v0 ≤ -1/2) :
    let r := d.absKey a code canNeg v0
    (alookup (code, true) r.1.anaTr = none) ∧
    (alookup (code, false) d.anaTr = none → 0 ≤ d.transposed a.note → d.transposed a.note ≤ 127 →
        alookup (code, false) r.1.anaTr = some ((d.transposed a.note).toNat, chanOf d.channel a.chOff) ∧
        noteEvent stNoteOn (chanOf d.channel a.chOff) (d.transposed a.note).toNat 64 ∈ r.2) ∧
    (alookup (code, false) d.anaTr = none → (d.transposed a.note < 0 ∨ 127 < d.transposed a.note) →
        alookup (code, false) r.1.anaTr = none ∧ ∀ o ∈ r.2, ∀ ch n, o ≠ noteEvent stNoteOn ch n 64) ∧
    (∀ p, alookup (code, false) d.anaTr = some p →
        alookup (code, false) r.1.anaTr = some p ∧ ∀ o ∈ r.2, ∀ ch n, o ≠ noteEvent stNoteOn ch n 64) := by
  rw [absKey_pos d a code canNeg v0 hn h]
  exact deflect_spec d a code false (fun h => nomatch h)

/-- negative deflection of a bidirectional entry: symmetric, with `a.noteNeg`, `a.chOffNeg` -/
theorem C08_neg (d : Dev) (a : Analog) (code : Code) (canNeg : Bool) (v0 : Rat)
    (h : vk canNeg v0 ≤ -1/2) (hb : a.bidir = true) :
    let r := d.absKey a code canNeg v0
    (alookup (code, false) r.1.anaTr = none) ∧
    (alookup (code, true) d.anaTr = none → 0 ≤ d.transposed a.noteNeg → d.transposed a.noteNeg ≤ 127 →
        alookup (code, true) r.1.anaTr = some ((d.transposed a.noteNeg).toNat, chanOf d.channel a.chOffNeg) ∧
        noteEvent stNoteOn (chanOf d.channel a.chOffNeg) (d.transposed a.noteNeg).toNat 64 ∈ r.2) ∧
    (alookup (code, true) d.anaTr = none → (d.transposed a.noteNeg < 0 ∨ 127 < d.transposed a.noteNeg) →
        alookup (code, true) r.1.anaTr = none ∧ ∀ o ∈ r.2, ∀ ch n, o ≠ noteEvent stNoteOn ch n 64) ∧
    (∀ p, alookup (code, true) d.anaTr = some p →
        alookup (code, true) r.1.anaTr = some p ∧ ∀ o ∈ r.2, ∀ ch n, o ≠ noteEvent stNoteOn ch n 64) := by
  rw [absKey_neg d a code canNeg v0 h]
  exact deflect_spec d a code true (fun _ => hb)

/-- negative deflection of a unidirectional entry is silent: the event is exactly the release of the positive
    identifier — no Note On (with a velocity other than 0) at all, the negative identifier is left untouched
    and the positive one is released -/
theorem C08_silent (d : Dev) (a : Analog) (code : Code) (canNeg : Bool) (v0 : Rat)
    (h : vk canNeg v0 ≤ -1/2) (hb : a.bidir = false) :
    let r := d.absKey a code canNeg v0
    r = d.analogNoteOff (code, false) ∧
    (∀ o ∈ r.2, ∀ ch n v, v ≠ 0 → o ≠ noteEvent stNoteOn ch n v) ∧
    alookup (code, true) r.1.anaTr = alookup (code, true) d.anaTr ∧
    alookup (code, false) r.1.anaTr = none := by
  intro r
  have hr : r = d.analogNoteOff (code, false) := by
    show d.absKey a code canNeg v0 = _
    rw [absKey_neg d a code canNeg v0 h, deflect, sideOn_unidir d a code hb]
    simp
  rw [hr, analogNoteOff_eq]
  exact ⟨rfl, offOuts_no_on _, alookup_aerase_ne (neg_ne_pos code), alookup_aerase_self⟩

/-- return towards centre: the event is `releaseAxis`; both identifiers are released -/
theorem C08_centre (d : Dev) (a : Analog) (code : Code) (canNeg : Bool) (v0 : Rat)
    (h : -c49 < vk canNeg v0 ∧ vk canNeg v0 < c49) (hn : ¬ vk canNeg v0 ≤ -1/2) :
    let r := d.absKey a code canNeg v0
    alookup (code, false) r.1.anaTr = none ∧ alookup (code, true) r.1.anaTr = none ∧ r = d.releaseAxis code := by
  intro r
  have hr : r = d.releaseAxis code := absKey_centre d a code canNeg v0 hn h
  rw [hr]
  exact ⟨releaseAxis_lookup_self d code false, releaseAxis_lookup_self d code true, rfl⟩

theorem centre_not_neg (canNeg : Bool) (v0 : Rat) (h : -c49 < vk canNeg v0 ∧ vk canNeg v0 < c49) :
    ¬ vk canNeg v0 ≤ -1/2 := by
  intro hn
  linarith [c49_le_half, h.1]

/-- hysteresis bands `[c49, 1/2)` and `(-1/2, -c49]`: nothing happens -/
theorem C08_band (d : Dev) (a : Analog) (code : Code) (canNeg : Bool) (v0 : Rat)
    (h : (c49 ≤ vk canNeg v0 ∧ vk canNeg v0 < 1/2) ∨ (-1/2 < vk canNeg v0 ∧ vk canNeg v0 ≤ -c49)) :
    d.absKey a code canNeg v0 = (d, []) := by
  have hp := c49_pos
  apply absKey_band
  · rcases h with h | h <;> intro hn <;> linarith [h.1, h.2]
  · rcases h with h | h <;> rintro ⟨h1, h2⟩ <;> linarith [h.1, h.2]
  · rcases h with h | h <;> intro hn <;> linarith [h.1, h.2]

def Paired (d : Dev) (code : Code) (o : Out) : Prop :=
  (∃ ch n, ch < 16 ∧ n ≤ 127 ∧ o = noteEvent stNoteOn ch n 64) ∨
    (∃ id ∈ [((code, false) : Code × Bool), (code, true)], ∃ n ch,
      alookup id d.anaTr = some (n, ch) ∧ o = noteEvent stNoteOff ch n 0)

theorem pairing (d : Dev) (a : Analog) (code : Code) (canNeg : Bool) (v0 : Rat) :
    ∀ o ∈ (d.absKey a code canNeg v0).2, Paired d code o := by
  refine absKey_cases (P := fun r => ∀ o ∈ r.2, Paired d code o) d a code canNeg v0 ?_ ?_ ?_
  · intro neg o ho
    rw [deflect_eq, List.mem_append, mem_offOuts] at ho
    rcases ho with ho | ho
    · exact Or.inl (sideOn_out_mem d a code neg o ho)
    · exact Or.inr ⟨(code, !neg), by cases neg <;> simp, ho⟩
  · exact fun o ho => Or.inr (releaseAxis_out_mem d code o ho)
  · exact fun o ho => nomatch ho

/-- pairing: every message the emulation emits is a Note On (velocity 64), or the Note Off of exactly what the
    tracker held for one of the two identifiers before the event -/
theorem C08_pairing (d : Dev) (a : Analog) (code : Code) (canNeg : Bool) (v0 : Rat) :
    ∀ o ∈ (d.absKey a code canNeg v0).2, (∃ ch n, o = noteEvent stNoteOn ch n 64) ∨
      (∃ id ∈ [((code, false) : Code × Bool), (code, true)], ∃ n ch,
        alookup id d.anaTr = some (n, ch) ∧ o = noteEvent stNoteOff ch n 0) := fun o ho =>
  (pairing d a code canNeg v0 o ho).imp (fun ⟨ch, n, _, _, h⟩ => ⟨ch, n, h⟩) id

/-- never both directions at once -/
def NotBoth (code : Code) (d : Dev) : Prop :=
  ¬ (alookup (code, false) d.anaTr ≠ none ∧ alookup (code, true) d.anaTr ≠ none)

theorem C08_not_both_init (code : Code) (cfg : Config) : NotBoth code (Dev.init cfg) := by
  intro h; exact h.1 rfl

theorem deflect_not_both (d : Dev) (a : Analog) (code : Code) (neg : Bool) : NotBoth code (deflect d a code neg).1 := by
  have : alookup (code, !neg) (deflect d a code neg).1.anaTr = none := by rw [deflect_eq]; exact alookup_aerase_self
  cases neg
  · exact fun h => h.2 this
  · exact fun h => h.1 this

theorem releaseAxis_not_both (d : Dev) (code : Code) : NotBoth code (d.releaseAxis code).1 := by
  rw [releaseAxis_eq]; exact fun h => h.2 (alookup_aerase_self)

/-- `NotBoth` is an invariant of `absKey`: outside the hysteresis bands one of the two identifiers is released,
    inside nothing changes -/
theorem C08_not_both (d : Dev) (a : Analog) (code : Code) (canNeg : Bool) (v0 : Rat) (hinv : NotBoth code d) :
    NotBoth code (d.absKey a code canNeg v0).1 :=
  absKey_cases (P := fun r => NotBoth code r.1) d a code canNeg v0 (deflect_not_both d a code)
    (releaseAxis_not_both d code) hinv

/-- outside the hysteresis bands `NotBoth` holds after the event whatever was tracked before -/
theorem C08_not_both_outside (d : Dev) (a : Analog) (code : Code) (canNeg : Bool) (v0 : Rat)
    (h : vk canNeg v0 ≤ -1/2 ∨ (-c49 < vk canNeg v0 ∧ vk canNeg v0 < c49) ∨ 1/2 ≤ vk canNeg v0) :
    NotBoth code (d.absKey a code canNeg v0).1 := by
  by_cases hn : vk canNeg v0 ≤ -1/2
  · rw [absKey_neg d a code canNeg v0 hn]; exact deflect_not_both d a code true
  · by_cases hc : -c49 < vk canNeg v0 ∧ vk canNeg v0 < c49
    · rw [absKey_centre d a code canNeg v0 hn hc]; exact releaseAxis_not_both d code
    · rw [absKey_pos d a code canNeg v0 hn ((h.resolve_left hn).resolve_left hc)]
      exact deflect_not_both d a code false

/-- the emulation only ever touches its own two identifiers, and never changes anything else of the device -/
theorem C08_frame_strong (d : Dev) (a : Analog) (code : Code) (canNeg : Bool) (v0 : Rat) :
    (d.absKey a code canNeg v0).1 = { d with anaTr := (d.absKey a code canNeg v0).1.anaTr } ∧
    ∀ id, id ≠ (code, false) → id ≠ (code, true) →
      alookup id (d.absKey a code canNeg v0).1.anaTr = alookup id d.anaTr := by
  refine absKey_cases (P := fun r => r.1 = { d with anaTr := r.1.anaTr } ∧ ∀ id, id ≠ (code, false) →
    id ≠ (code, true) → alookup id r.1.anaTr = alookup id d.anaTr) d a code canNeg v0 ?_ ?_ ?_
  · intro neg
    rw [deflect_eq]
    refine ⟨rfl, fun id h1 h2 => ?_⟩
    have : id ≠ (code, neg) ∧ id ≠ (code, !neg) := by cases neg <;> exact ⟨‹_›, ‹_›⟩
    rw [alookup_aerase_ne this.2, sideOn_lookup_ne d a code neg this.1]
  · exact ⟨releaseAxis_writes d code, fun id => releaseAxis_lookup_ne d code⟩
  · exact ⟨rfl, fun _ _ _ => rfl⟩

/-- the emulation only ever touches its own two identifiers, and never changes
    octave/semitone/channel/mapping/noteTr/counter -/
theorem C08_frame (d : Dev) (a : Analog) (code : Code) (canNeg : Bool) (v0 : Rat) :
    let r := d.absKey a code canNeg v0
    r.1.octave = d.octave ∧ r.1.semitone = d.semitone ∧ r.1.channel = d.channel ∧ r.1.mapping = d.mapping ∧
    r.1.noteTr = d.noteTr ∧ r.1.counter = d.counter ∧
    ∀ id, id ≠ (code, false) → id ≠ (code, true) → alookup id r.1.anaTr = alookup id d.anaTr := by
  intro r
  obtain ⟨h1, h2⟩ := C08_frame_strong d a code canNeg v0
  refine ⟨?_, ?_, ?_, ?_, ?_, ?_, h2⟩ <;> (simp only [r]; rw [h1])

/-- `releaseAxis` (mapping changed under a deflected axis, or return to centre) releases both identifiers, with
    exactly their tracked Note Offs (positive first), and touches nothing else -/
theorem C08_release_axis (d : Dev) (code : Code) :
    alookup (code, false) (d.releaseAxis code).1.anaTr = none ∧
    alookup (code, true) (d.releaseAxis code).1.anaTr = none ∧
    (∀ o ∈ (d.releaseAxis code).2, ∃ id ∈ [((code, false) : Code × Bool), (code, true)], ∃ n ch,
        alookup id d.anaTr = some (n, ch) ∧ o = noteEvent stNoteOff ch n 0) ∧
    (d.releaseAxis code).2 =
      (match alookup (code, false) d.anaTr with
       | some (n, ch) => [noteEvent stNoteOff ch n 0]
       | none => []) ++
      (match alookup (code, true) d.anaTr with
       | some (n, ch) => [noteEvent stNoteOff ch n 0]
       | none => []) ∧
    (d.releaseAxis code).1 = { d with anaTr := (d.releaseAxis code).1.anaTr } ∧
    (∀ id, id ≠ (code, false) → id ≠ (code, true) →
      alookup id (d.releaseAxis code).1.anaTr = alookup id d.anaTr) := by
  exact ⟨releaseAxis_lookup_self d code false, releaseAxis_lookup_self d code true, releaseAxis_out_mem d code,
    by rw [releaseAxis_eq]; rfl, releaseAxis_writes d code, fun id => releaseAxis_lookup_ne d code⟩

def TrWF (d : Dev) : Prop := ∀ id n ch, alookup id d.anaTr = some (n, ch) → n ≤ 127 ∧ ch < 16

theorem C08_wf_init (cfg : Config) : TrWF (Dev.init cfg) := by
  intro id n ch h; simp [Dev.init, alookup] at h

theorem erase_wf (d : Dev) (id : Code × Bool) (h : TrWF d) : TrWF { d with anaTr := aerase id d.anaTr } :=
  fun id' n ch hl => h id' n ch (alookup_aerase_some hl).2

theorem analogNoteOff_wf (d : Dev) (id : Code × Bool) (h : TrWF d) : TrWF (d.analogNoteOff id).1 := by
  rw [analogNoteOff_eq]; exact erase_wf d id h

theorem analogNoteOn_wf (d : Dev) (id : Code × Bool) (note off : Nat) (h : TrWF d) : TrWF (d.analogNoteOn id note off).1 := by
  intro id' n ch hl
  rcases analogNoteOn_lookup_some d id id' note off n ch hl with h1 | h1
  · exact h id' n ch h1
  · exact h1

theorem C08_wf_release_axis (d : Dev) (code : Code) (h : TrWF d) : TrWF (d.releaseAxis code).1 := by
  rw [releaseAxis_eq]; exact erase_wf _ _ (erase_wf _ _ h)

/-- the tracker only ever holds real (note, channel) pairs -/
theorem C08_wf (d : Dev) (a : Analog) (code : Code) (canNeg : Bool) (v0 : Rat) (h : TrWF d) :
    TrWF (d.absKey a code canNeg v0).1 := by
  refine absKey_cases (P := fun r => TrWF r.1) d a code canNeg v0 (fun neg => analogNoteOff_wf _ _ ?_)
    (C08_wf_release_axis d code h) h
  unfold sideOn; split
  · exact analogNoteOn_wf _ _ _ _ h
  · exact h

/-- pairing, as the receiver sees it: every message of the emulation is `noteOn64` on a real channel with a real
    note, or the `noteOffMsg` of exactly what the tracker held for one of the two identifiers -/
theorem C08_pairing_recv (d : Dev) (a : Analog) (code : Code) (canNeg : Bool) (v0 : Rat) (hwf : TrWF d) :
    ∀ o ∈ (d.absKey a code canNeg v0).2, (∃ ch n, ch < 16 ∧ n ≤ 127 ∧ o = noteOn64 ch n) ∨
      (∃ id ∈ [((code, false) : Code × Bool), (code, true)], ∃ n ch,
        alookup id d.anaTr = some (n, ch) ∧ o = noteOffMsg ch n) := by
  intro o ho
  rcases pairing d a code canNeg v0 o ho with ⟨ch, n, hc, hn, rfl⟩ | ⟨id, hid, n, ch, h1, rfl⟩
  · exact Or.inl ⟨ch, n, hc, hn, noteEvent_on hc⟩
  · exact Or.inr ⟨id, hid, n, ch, h1, noteEvent_off (hwf id n ch h1).2⟩

/-- at the receiver: a fresh positive deflection with an in-range note, nothing held for the negative identifier:
    the event is exactly one Note On and the note sounds afterwards -/
theorem C08_pos_sounds (d : Dev) (a : Analog) (code : Code) (canNeg : Bool) (v0 : Rat)
    (h : 1/2 ≤ vk canNeg v0) (hn : ¬ vk canNeg v0 ≤ -1/2)
    (hf : alookup (code, false) d.anaTr = none) (hg : alookup (code, true) d.anaTr = none)
    (h0 : 0 ≤ d.transposed a.note) (h1 : d.transposed a.note ≤ 127) (s : List (Nat × Nat)) :
    (d.absKey a code canNeg v0).2 = [noteOn64 (chanOf d.channel a.chOff) (d.transposed a.note).toNat] ∧
    (chanOf d.channel a.chOff, (d.transposed a.note).toNat) ∈ sounding s (d.absKey a code canNeg v0).2 := by
  have hout : (d.absKey a code canNeg v0).2 =
      [noteEvent stNoteOn (chanOf d.channel a.chOff) (d.transposed a.note).toNat 64] := by
    rw [absKey_pos d a code canNeg v0 hn h, deflect_eq, sideOn_fresh d a code false (fun h => nomatch h) hf]
    simp only [Bool.not_false, hg, Bool.false_eq_true, if_false, (analogNoteOn_in_range d (code, false) a.note a.chOff h0 h1).2]
    rfl
  rw [hout]
  constructor
  · rw [noteEvent_on (chanOf_lt _ _)]; rfl
  · simp only [sounding, List.foldl_cons, List.foldl_nil, noteEvent_on (chanOf_lt _ _),
      recv_on (v := 64) (chanOf_lt _ _) (by decide), mem_sinsert, or_true]

/-! ### non-vacuity -/

private def cfg0 : Config :=
  { maps := [], actions := [], exitSeq := [], mode := .off, defOct := 0, defSemi := 0, defCh := 1,
    defMap := 0, vel := 64, axes := [] }
private def a0 : Analog :=
  { kind := .key, cc := 0, ccNeg := 0, note := 60, noteNeg := 59, chOff := 0, chOffNeg := 0,
    act := .none, actNeg := .none, flip := false, bidir := true, dzCenter := false }

/-- the hypotheses of `C08_pos` are satisfiable: full positive deflection (`v0 = 1`) of a fresh device tracks
    (60, channel 0) for the positive identifier and sends its Note On -/
example : alookup (3, false) ((Dev.init cfg0).absKey a0 3 true 1).1.anaTr = some (60, 0) ∧
    noteOn64 0 60 ∈ ((Dev.init cfg0).absKey a0 3 true 1).2 := by
  have h := (C08_pos (Dev.init cfg0) a0 3 true 1 (by norm_num [vk]) (by norm_num [vk])).2.1 rfl (by decide) (by decide)
  have e1 : ((Dev.init cfg0).transposed a0.note).toNat = 60 := by decide
  have e2 : chanOf (Dev.init cfg0).channel a0.chOff = 0 := by decide
  rw [e1, e2, noteEvent_on (by decide)] at h
  exact h

/-- the same by evaluation of the model in the kernel (no `native_decide`) -/
example : ((Dev.init cfg0).absKey a0 3 true 1).1.anaTr = [((3, false), (60, 0))] ∧
    ((Dev.init cfg0).absKey a0 3 true 1).2 = [noteOn64 0 60] := by decide +kernel

/-- full negative deflection then full positive deflection (no event near the centre in between): the negative key
    is released and the positive one pressed in the same event -/
example : (((Dev.init cfg0).absKey a0 3 true (-1)).1.absKey a0 3 true 1).2 = [noteOn64 0 60, noteOffMsg 0 59] ∧
    (((Dev.init cfg0).absKey a0 3 true (-1)).1.absKey a0 3 true 1).1.anaTr = [((3, false), (60, 0))] := by
  decide +kernel

/-- OBSERVATION (not a property of C08 as listed, recorded because the proofs expose it): in the positive branch the
    Note On precedes the Note Off of the negative identifier.  If both directions are configured with the SAME note
    and channel, a direct crossing emits Note On n, Note Off n — the receiver ends silent while the tracker holds n. -/
example :
    let a1 : Analog := { a0 with noteNeg := 60 }
    let d1 := ((Dev.init cfg0).absKey a1 3 true (-1)).1
    (d1.absKey a1 3 true 1).2 = [noteOn64 0 60, noteOffMsg 0 60] ∧
    sounding [(0, 60)] (d1.absKey a1 3 true 1).2 = [] ∧
    (d1.absKey a1 3 true 1).1.anaTr = [((3, false), (60, 0))] := by
  decide +kernel

end Hidi.Props.C08
