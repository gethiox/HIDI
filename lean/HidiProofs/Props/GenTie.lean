/-
  GenTie — the function bodies of the key path, regenerated from the Go sources, compute what the model computes.

  `Hidi/Gen/Bodies.lean` is written on every run by the Go → Lean translator `tools/extract/golite.go` from
  `internal/pkg/midi/device/device.go` and `events.go`: one Lean function per Go method (those `GenTie_translated`
  names, and the two dispatch tables of `NewDevice`; `Multinote` by `tools/extract/multinote.go`).  The theorems below
  say that each of them equals the hand-written model function the property theorems (C01–C04, C13, C14) are about —
  for every state, every configuration and every event, not for sampled ones.  A change to one of these Go bodies
  changes the generated definition; if the change alters the behaviour the equality is false, its proof in
  `HidiProofs/Bodies.lean` fails and this module does not build (the differential run then looks for the input on
  which code and model differ).

  * `GenTie_translated`      : every method it lists was translated (none fell outside the translator's subset);
  * `GenTie_<Method>`        : generated body = model function;
  * `GenTie_handleKEYEvent`  : the whole key handler, for every state with `channel < 256` (a `uint8`);
  * `GenTie_reachable`       : in particular in every non-crashed state reached by any history of keys, axes, SYN and
                               MIDI input of any accepted configuration;
  * `GenTie_C02_release_pinned`, `GenTie_C04_press`, `GenTie_C13_panic_messages`, `GenTie_C14_signal` : four property
                               theorems restated about the *generated* handler (what the Go code says), obtained by
                               rewriting with the tie.
-/
import HidiProofs.Bodies
import HidiProofs.Props.C02mixed
import HidiProofs.Props.C13mixed
import HidiProofs.Props.C14mixed
import HidiProofs.Props.C04mixed
namespace Hidi.Props.GenTie
open Hidi Hidi.GoLite Hidi.Gen Hidi.BodiesTie Hidi.Spec Hidi.EngineSim Hidi.AnaIndep Hidi.KInvReach

/-- none of the methods of the key path fell outside the translator's subset -/
theorem GenTie_translated :
    ["OctaveDown", "OctaveUp", "OctaveReset", "SemitoneDown", "SemitoneUp", "SemitoneReset", "MappingDown",
      "MappingUp", "MappingReset", "ChannelDown", "ChannelUp", "ChannelReset", "CCLearningOn", "CCLearningOff", "Panic",
      "checkDoubleActions", "NoteOn", "NoteOff", "AnalogNoteOn", "AnalogNoteOff", "checkExitSequence",
      "handleKEYEvent", "Multinote"].all (fun n => decide (n ∈ Body.translated)) = true := by
  decide +kernel

/-- `Multinote` (device.go), translated from the source: the pressed notes of the tracker, sorted (`sort.Ints` is the model's
    `sortInts`), differenced against the lowest; none or one pressed note disengages -/
theorem GenTie_multinote (d : Dev) : Body.Multinote (toG d) = toG d.multinote := by
  rw [Multinote_eq, toG_multinote]

/-- the dispatch table `actionsPress` and every method it names (`Panic`, `MappingUp/Down`, `OctaveUp/Down`,
    `SemitoneUp/Down`, `ChannelUp/Down`, `CCLearningOn`; `Multinote` does nothing on press) -/
theorem GenTie_actionsPress (d : Dev) (hc : d.channel < 256) (a : Action) :
    Body.invokeActionPress (toG d) a = toGR (d.invokePress a) := invokeActionPress_tie d hc a

theorem GenTie_actionsRelease (d : Dev) (a : Action) :
    Body.invokeActionRelease (toG d) a = toG (d.invokeRelease a) := invokeActionRelease_tie d a

/-- `checkDoubleActions` including the four reset methods it calls -/
theorem GenTie_checkDoubleActions (d : Dev) :
    Body.checkDoubleActions (toG d) = (toG d.checkDouble.1, d.checkDouble.2) := checkDouble_tie d

theorem GenTie_NoteOn (d : Dev) (sub : Sub) (node : String) (code : Code) (v t : Int) :
    Body.noteOn (toG d) sub node code v t = toGR (d.noteOn sub code) := noteOn_tie d sub node code v t

theorem GenTie_NoteOff (d : Dev) (sub : Sub) (node : String) (code : Code) (v t : Int) :
    Body.noteOff (toG d) sub node code v t = toGR (d.noteOff code) := noteOff_tie d sub node code v t

theorem GenTie_AnalogNoteOn (d : Dev) (id : Code × Bool) (note chOff : Nat) (sub : Sub) (node : String) (code : Code) (v t : Int) :
    Body.analogNoteOn (toG d) id (note : Int) (chOff : Int) sub node code v t = toGR (d.analogNoteOn id note chOff) :=
  analogNoteOn_tie d id note chOff sub node code v t

theorem GenTie_AnalogNoteOff (d : Dev) (id : Code × Bool) (sub : Sub) (node : String) (code : Code) (v t : Int) :
    Body.analogNoteOff (toG d) id sub node code v t = toGR (d.analogNoteOff id) := analogNoteOff_tie d id sub node code v t

theorem GenTie_checkExitSequence (d : Dev) :
    Body.checkExitSequence (toG d) = (if d.exitComplete then (toG d).emit .sig else toG d, d.exitComplete) :=
  checkExit_tie d

/-- **the key handler**: for every state (channel a `uint8`), sub-handler, key code, value and event type the
    translated `handleKEYEvent` ends in the model's state having sent the model's messages -/
theorem GenTie_handleKEYEvent (d : Dev) (hch : d.channel < 256) (sub : Sub) (node : String) (code : Code) (v t : Int) :
    Body.handleKEYEvent (toG d) sub node code v t = toGR (d.handleKey sub code v) := handleKey_tie d hch sub node code v t

/-- `KInv` is `DInv` of a state with the same channel -/
theorem kinv_channel {cfg : Config} {d : Dev} (hd : KInv cfg d) : d.channel < 256 :=
  Nat.lt_trans (hd.ch : d.channel < 16) (by decide)

/-- in every non-crashed state of every history of an accepted configuration -/
theorem GenTie_reachable (cfg : Config) (hacc : Accepted cfg = true) (evs : List Ev)
    (hdead : ((Dev.init cfg).run evs).1.dead = false) (sub : Sub) (node : String) (code : Code) (v t : Int) :
    Body.handleKEYEvent (toG ((Dev.init cfg).run evs).1) sub node code v t =
      toGR (((Dev.init cfg).run evs).1.handleKey sub code v) :=
  handleKey_tie _ (kinv_channel (reachable_kinv cfg hacc evs hdead)) sub node code v t

/-- C02 on the generated code: releasing a key sends exactly the Note Off recorded at its press (or nothing, by the
    collision mode) -/
theorem GenTie_C02_release_pinned {cfg : Config} {d : Dev} (hd : KInv cfg d) (sub : Sub) (node : String) (code : Code) (t : Int)
    (hna : alookup code cfg.actions = none) :
    (Body.handleKEYEvent (toG d) sub node code 0 t).out =
      match alookup code d.noteTr with
      | none => []
      | some (n, ch) => releaseOuts cfg.mode (decide (d.count ch n = 1)) ch n := by
  rw [handleKey_tie d (kinv_channel hd)]
  exact C02.C02_all_release_pinned hd sub code hna

/-- C13 on the generated code: the panic press sends All Notes Off and the 128 Note Offs on the current channel -/
theorem GenTie_C13_panic_messages {cfg : Config} {d : Dev} (hd : KInv cfg d) (sub : Sub) (node : String) (code : Code) (t : Int)
    (ha : alookup code cfg.actions = some .panic) (hsw : (kt d code 1).exitComplete = false)
    (hnp : (withAct (kt d code 1) .panic).checkDouble.2 = false) :
    (Body.handleKEYEvent (toG d) sub node code 1 t).out = panicMsgs d.channel := by
  rw [handleKey_tie d (kinv_channel hd)]
  exact C13.C13_all_messages hd sub code ha hsw hnp

/-- C04 / C03 on the generated code: a key press sends what the transposition, channel arithmetic and collision mode
    prescribe (`resolve`, `pressSpec`) -/
theorem GenTie_C04_press {cfg : Config} {d : Dev} (hd : KInv cfg d)
    (hcnt : ∀ ch n, d.count ch n = (holders d.noteTr (n, ch) : Int))
    (sub : Sub) (node : String) (code : Code) (t : Int) (hna : alookup code cfg.actions = none) (hsw : (kt d code 1).exitComplete = false) :
    (Body.handleKEYEvent (toG d) sub node code 1 t).out =
      match resolve cfg (StObs.ofDev d) (u8 cfg.vel) sub code with
      | none => []
      | some (n, ch, v) => C03.pressSpec cfg.mode (holders d.noteTr (n, ch)) ch n v := by
  rw [handleKey_tie d (kinv_channel hd)]
  exact C04.C04_all_press hd hcnt sub code hna hsw

/-- C14 on the generated code: the handler raises the termination signal iff the event is a press that completes the
    non-empty exit sequence -/
theorem GenTie_C14_signal {cfg : Config} {d : Dev} (hd : KInv cfg d) (sub : Sub) (node : String) (code : Code) (v t : Int) :
    Out.sig ∈ (Body.handleKEYEvent (toG d) sub node code v t).out ↔
      (v = 1 ∧ cfg.exitSeq ≠ [] ∧ ∀ k ∈ cfg.exitSeq, k ∈ d.keyTr ∨ k = code) := by
  rw [handleKey_tie d (kinv_channel hd)]
  obtain ⟨m, hm⟩ := hd.curMap
  have hc : d.cfg = cfg := hd.cfg_eq
  show Out.sig ∈ (d.handleKey sub code v).2 ↔ _
  rw [C14.C14_all_signal_key hm]
  exact and_congr_right fun h1 => by subst h1; rw [C14.C14_complete_iff, hc]

/-! ### non-vacuity: the generated handler evaluated on concrete events -/

def exM : Mapping := { name := "Piano", midi := [(("", 30), ⟨60, 0⟩), (("", 31), ⟨62, 1⟩)], analog := [], dz := [], defDz := [] }
def exC : Config :=
  { maps := [exM], actions := [(59, .octaveUp), (1, .panic)], exitSeq := [56, 1], mode := .interrupt, defOct := 0, defSemi := 0,
    defCh := 1, defMap := 0, vel := 64, axes := [] }

/-- press of a mapped key: Note On 60 on channel 1 -/
example : (Body.handleKEYEvent (toG (Dev.init exC)) "" "" 30 1 1).out = [.midi 0x90 60 64] := by decide
/-- octave up, then key 31 (channel offset 1): Note On 74 on channel 2 -/
example : (Body.handleKEYEvent (Body.handleKEYEvent (toG (Dev.init exC)) "" "" 59 1 1) "" "" 31 1 1).out = [.midi 0x91 74 64] := by
  decide
/-- the exit sequence (Alt then Esc): the completing press raises the signal and is swallowed (no panic burst) -/
example : (Body.handleKEYEvent (Body.handleKEYEvent (toG (Dev.init exC)) "" "" 56 1 1) "" "" 1 1 1).out = [.sig] := by decide
-- Esc alone is the panic key: 129 messages
set_option maxRecDepth 16000 in
example : (Body.handleKEYEvent (toG (Dev.init exC)) "" "" 1 1 1).out.length = 129 := by decide +kernel

end Hidi.Props.GenTie
