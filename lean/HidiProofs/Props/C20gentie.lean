/-
  C20 (device type rule) on the regenerated rules: `Gen.deviceTypeRows` / `Gen.deviceTypeDefault` are the case clauses of
  `DetermineDeviceType` (input/device.go) in source order, extracted on every run.  Interpreted with the meaning of
  `contains` (every listed handler type occurs) and `containsOnly` (as many handlers as listed types, and every listed type
  occurs), they give the model's `determineType` for every list of handler types — so `C20_type_rule` is about the clauses
  of the source.  (`HandlerType` itself is already computed from the regenerated `Gen.handlerRows`.)
-/
import Hidi.Normalize
namespace Hidi.Props.C20gen
open Hidi

/-- `contains(in, types...)` / `containsOnly(in, types...)` on the list of handler types of a group -/
def ruleHolds (hts : List String) (row : String × List String × String) : Bool :=
  if row.1 = "contains" then row.2.1.all (· ∈ hts)
  else if row.1 = "containsOnly" then decide (hts.length = row.2.1.length) && row.2.1.all (· ∈ hts)
  else false

def devTypeOfName : String → DevType
  | "JoystickDevice" => .joystick
  | "KeyboardDevice" => .keyboard
  | "MouseDevice" => .mouse
  | _ => .unknown

def determineFromRows (rows : List (String × List String × String)) (dflt : String) (hts : List String) : DevType :=
  match rows.find? (ruleHolds hts) with
  | some r => devTypeOfName r.2.2
  | none => devTypeOfName dflt

theorem C20_gen_rows_wellformed :
    Gen.deviceTypeRows.all (fun r => r.1 = "contains" ∨ r.1 = "containsOnly") = true ∧
    (Gen.deviceTypeDefault :: Gen.deviceTypeRows.map (·.2.2)).all
      (fun n => n ∈ ["JoystickDevice", "KeyboardDevice", "MouseDevice", "UnknownDevice"]) = true := by decide

theorem C20_gen_type_rule (hts : List String) :
    determineFromRows Gen.deviceTypeRows Gen.deviceTypeDefault hts = determineType hts := by
  unfold determineType
  -- by the first test of `determineType` that succeeds (or none): the clause at the same position is the first that holds
  repeat' split
  all_goals
    simp [determineFromRows, Gen.deviceTypeRows, Gen.deviceTypeDefault, List.find?, ruleHolds, devTypeOfName,
      ← Bool.decide_and, *]

end Hidi.Props.C20gen
