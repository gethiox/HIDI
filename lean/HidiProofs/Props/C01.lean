/-
  C01 — No stuck notes.

  Key part: for every accepted configuration and every key history inside the quantifier
  (`Disciplined`: values 0/1 alternating per key code, pair discipline), whenever no key is down the
  receiver hears nothing; after a disconnect the receiver hears nothing whatever was held.
  By the simulation invariant `EngineSim.Inv`
  (counter = number of holders, tracker keys ⊆ keys down, sounding ⊆ tracked pairs).

  Axis part (key emulation): `C01_axis_rest` below and `HidiProofs.Props.C08` — per event of a key-emulating
  axis, from any state, after the event the tracker holds exactly what the position says
  (`C08_pos/neg/centre`), an axis that leaves key emulation is released (`C08_release_axis`), and the
  disconnect clean-up empties both trackers (`C01_mixed_disconnect`; in any covering order:
  `Mixed.cleanupWith_silent`).

  Mixed histories — key events, axis events of every type (controllers, pitch bend, key emulation, action
  emulation), SYN, MIDI input, in any order, accepted configuration: `C01_mixed_explained`,
  `C01_mixed_quiescent`, `C01_mixed_disconnect` (invariant `Mixed.MInv`, by induction over the history).
  The only hypothesis on the history is `OKHistory`: key values 0/1/2 and a key is pressed only while the
  key tracker does not hold it (keys alternate); the disconnect theorem also asks that the device has not
  crashed (`dead = false`: a crashed device runs no clean-up).
-/
import HidiProofs.KeyHistories
import HidiProofs.Props.C08
import HidiProofs.Mixed
namespace Hidi.Props.C01
open Hidi Hidi.Spec Hidi.EngineSim Hidi.KeyHist

/-- the monitor the check evaluates on the implementation never fires on the model (accepted configuration, any
    key-only history, with or without a final disconnect) -/
theorem C01_monitor (cfg : Config) (evs : List Ev) (disc : Bool)
    (hacc : Accepted cfg = true) (hk : evs.all keyOnly = true) :
    failsOf "C01" (checkAll (modelTrace cfg evs disc)) = [] :=
  no_fails "C01" cfg evs disc hacc hk

/-- after any history in the quantifier, every sounding (channel, note) is the pair recorded for some key that is
    still down: no note outlives its key -/
theorem C01_sounding_explained (cfg : Config) (evs : List Ev) (hacc : Accepted cfg = true)
    (hk : evs.all keyOnly = true) (hd : Disciplined cfg evs) :
    ∀ p ∈ heard cfg evs, ∃ k ∈ keysDown evs [], (k, (p.2, p.1)) ∈ (modelSteps (Dev.init cfg) evs).2.noteTr := by
  have hinv := final_inv hacc hk
  have ho := hinv.okp hd
  rw [← finalBook_snd, ← finalBook_down, hinv.down]
  exact ho.core.explained ho.keys

/-- **no stuck notes**: after any history in the quantifier, if no key is down nothing sounds -/
theorem C01_quiescent (cfg : Config) (evs : List Ev) (hacc : Accepted cfg = true)
    (hk : evs.all keyOnly = true) (hd : Disciplined cfg evs) (hdown : keysDown evs [] = []) :
    heard cfg evs = [] :=
  List.eq_nil_iff_forall_not_mem.mpr fun p hp => by
    obtain ⟨k, hk', -⟩ := C01_sounding_explained cfg evs hacc hk hd p hp
    rw [hdown] at hk'; cases hk'

/-- **disconnect**: whatever is held, after the clean-up of `ProcessEvents` nothing sounds -/
theorem C01_disconnect (cfg : Config) (evs : List Ev) (hacc : Accepted cfg = true)
    (hk : evs.all keyOnly = true) (hd : Disciplined cfg evs) :
    sounding (heard cfg evs) (modelSteps (Dev.init cfg) evs).2.cleanup.2 = [] := by
  have hinv := final_inv hacc hk
  rw [← finalBook_snd]
  exact (cleanup_sim hinv).2 hd

/-- the clean-up in any order of the key tracker (Go iterates a map): the model's clean-up uses the
    tracker's own order; any order that covers the tracked keys empties the tracker and silences what sounded -/
theorem C01_cleanup_any_order {cfg : Config} {d : Dev} (hdv : DInv cfg d) (snd : List (Nat × Nat)) (hc : Core d snd)
    (order : List Code) (hcover : ∀ k ∈ akeys d.noteTr, k ∈ order) :
    (offAll d order).1.noteTr = [] ∧ sounding snd (offAll d order).2 = [] := by
  obtain ⟨-, -, r3, r4⟩ := offAll_sim order d hdv
  rw [foldl_aerase_nil _ _ hcover] at r3
  exact ⟨r3, (r4 snd hc).silent r3⟩

/-- axis part: an event of a key-emulating axis at rest (|v| < 0.49) leaves nothing of that axis tracked,
    from any state (`C08_centre`); an axis that no longer emulates keys is `C08_release_axis` -/
theorem C01_axis_rest (d : Dev) (a : Analog) (code : Code) (canNeg : Bool) (v0 : Rat)
    (h : -c49 < C08.vk canNeg v0 ∧ C08.vk canNeg v0 < c49) :
    alookup (code, false) (d.absKey a code canNeg v0).1.anaTr = none ∧
    alookup (code, true) (d.absKey a code canNeg v0).1.anaTr = none :=
  let r := C08.C08_centre d a code canNeg v0 h (C08.centre_not_neg canNeg v0 h)
  ⟨r.1, r.2.1⟩

open Hidi.Mixed in
/-- **whatever sounds is tracked**: after any admissible history of key, axis, SYN and MIDI-input events, every
    (channel, note) a receiver hears is the pair recorded for a held key or for a deflected key-emulating axis -/
theorem C01_mixed_explained (cfg : Config) (evs : List Ev) (hacc : Accepted cfg = true)
    (hok : OKHistory (Dev.init cfg) evs) :
    ∀ p ∈ sounding [] ((Dev.init cfg).runFlat evs).2, Tracked ((Dev.init cfg).runFlat evs).1 p :=
  (run_minv evs _ _ (init_minv hacc) hok).snd

open Hidi.Mixed in
/-- **no stuck notes, mixed histories**: when no key is down (the key tracker is empty) and no emulated key is
    tracked (every key-emulating axis is back inside its rest zone, `C01_axis_rest`), nothing sounds -/
theorem C01_mixed_quiescent (cfg : Config) (evs : List Ev) (hacc : Accepted cfg = true)
    (hok : OKHistory (Dev.init cfg) evs)
    (hkeys : ((Dev.init cfg).runFlat evs).1.keyTr = []) (haxes : ((Dev.init cfg).runFlat evs).1.anaTr = []) :
    sounding [] ((Dev.init cfg).runFlat evs).2 = [] := by
  have hinv := run_minv evs _ _ (init_minv hacc) hok
  apply List.eq_nil_iff_forall_not_mem.mpr
  intro p hp
  rcases hinv.snd p hp with ⟨k, hk⟩ | ⟨i, hi⟩
  · have := (hinv.keys k (mem_akeys_of_mem hk)).1
    rw [hkeys] at this; cases this
  · rw [haxes] at hi; cases hi

open Hidi.Mixed in
/-- **disconnect, mixed histories**: whatever is held or deflected, after the clean-up of a device that has not
    crashed both trackers are empty and nothing sounds -/
theorem C01_mixed_disconnect (cfg : Config) (evs : List Ev) (hacc : Accepted cfg = true)
    (hok : OKHistory (Dev.init cfg) evs) (hdead : ((Dev.init cfg).runFlat evs).1.dead = false) :
    sounding (sounding [] ((Dev.init cfg).runFlat evs).2) ((Dev.init cfg).runFlat evs).1.cleanup.2 = [] ∧
    ((Dev.init cfg).runFlat evs).1.cleanup.1.noteTr = [] ∧ ((Dev.init cfg).runFlat evs).1.cleanup.1.anaTr = [] :=
  cleanup_silent (run_minv evs _ _ (init_minv hacc) hok) hdead

open Hidi.Mixed in
/-- the counter is the number of holders after every admissible mixed history, too (C03's refinement fact) -/
theorem C01_mixed_counter (cfg : Config) (evs : List Ev) (hacc : Accepted cfg = true)
    (hok : OKHistory (Dev.init cfg) evs) (ch n : Nat) :
    ((Dev.init cfg).runFlat evs).1.count ch n = (holders ((Dev.init cfg).runFlat evs).1.noteTr (n, ch) : Int) :=
  (run_minv evs _ _ (init_minv hacc) hok).cnt ch n

/-! ### non-vacuity: a concrete history with a collision, a state change while held and a release in the
    other order satisfies every hypothesis, and notes did sound in between -/

def exCfg : Config :=
  { maps := [{ name := "Piano", midi := [(("", 30), ⟨60, 0⟩), (("", 31), ⟨48, 0⟩)], analog := [], dz := [], defDz := [] }],
    actions := [(59, .octaveUp)], exitSeq := [], mode := .interrupt, defOct := 0, defSemi := 0, defCh := 1,
    defMap := 0, vel := 64, axes := [] }

def exEvs : List Ev :=
  [.key "" 30 1, .key "" 59 1, .key "" 59 0, .key "" 31 1, .key "" 30 0, .key "" 31 0]

example : Accepted exCfg = true := by decide
example : exEvs.all keyOnly = true := by decide
example : Disciplined exCfg exEvs := by unfold Disciplined; decide
example : keysDown exEvs [] = [] := by decide
example : heard exCfg (exEvs.take 4) = [(0, 60)] := by decide
example : heard exCfg exEvs = [] := by decide

/-- an axis event is always admissible (so are SYN and MIDI input, `EvOK` is `True` for them): the discipline
    only concerns key presses -/
theorem okHistory_abs (d : Dev) (s n : String) (c : Code) (v : Int) (r : List Ev) :
    Mixed.OKHistory d (.abs s n c v :: r) ↔ Mixed.OKHistory (d.step (.abs s n c v)).1 r := by
  simp [Mixed.OKHistory, Mixed.EvOK]

/-- a history with a key held across a transposition, MIDI input and SYN in between, satisfies the hypothesis -/
def mixEvs : List Ev :=
  [.key "" 30 1, .midiIn 0x90 60 64, .key "" 59 1, .syn, .key "" 59 0, .key "" 31 1, .key "" 30 0, .key "" 31 0]

example : Mixed.OKHistory (Dev.init exCfg) mixEvs := by
  simp only [mixEvs, Mixed.OKHistory, Mixed.EvOK]
  decide
example : sounding [] ((Dev.init exCfg).runFlat mixEvs).2 = [] := by decide
example : sounding [] ((Dev.init exCfg).runFlat (mixEvs.take 6)).2 ≠ [] := by decide

end Hidi.Props.C01
