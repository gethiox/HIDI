/-
  GenTieAbs — the axis path regenerated from the Go sources computes what the model computes (C05–C08).

  `Hidi/Gen/Bodies.lean` (written on every run by tools/extract/golite.go) contains the translation of `handleABSEvent`
  (as the segment chain `Body.handleABSEvent_s0 … _s10`) and of `processEvent`.  `HidiProofs/BodiesAbs.lean` proves them
  equal to the model's `Dev.handleAbs` / `Dev.step`, on which the theorems of C05 (every message well-formed), C06
  (transfer function: range, monotonicity, end stops, accuracy), C07 (one side at a time) and C08 (key emulation) are
  stated.  The binary64 arithmetic is the same `Hidi/Float.lean` on both sides: one correctly rounded operation per Go
  operation, `float64(int)` and `math.Abs` exact, literals = `rnd53` of their decimal value.

  * `GenTieAbs_translated`      : both methods are inside the translator's subset;
  * `GenTieAbs_evconsts`        : the event-type constants the translator uses are those of go-evdev (regenerated table);
  * `GenTieAbs_handleABSEvent`  : generated axis handler = `Dev.handleAbs`, every state (`channel` a `uint8`), every
                                  configuration, axis, raw value;
  * `GenTieAbs_processEvent_*`  : generated `processEvent` = `Dev.step` for key, axis and SYN events, every non-crashed state;
  * `GenTieAbs_reachable`       : in particular in every non-crashed state of every history of an accepted configuration;
  * `GenTieAbs_C05_wellformed`  : C05 on the generated code: everything the regenerated `processEvent` sends for an
                                  in-range axis event, from a non-crashed state satisfying `C05.DevOK`, is a well-formed
                                  MIDI message.
-/
import HidiProofs.BodiesAbs
import HidiProofs.Props.C05full
import HidiProofs.Props.GenTie
import Hidi.Gen.Evdev
namespace Hidi.Props.GenTieAbs
open Hidi Hidi.GoLite Hidi.Gen Hidi.BodiesTie Hidi.Spec Hidi.AnaIndep Hidi.KInvReach

theorem GenTieAbs_translated :
    ["handleABSEvent", "processEvent"].all (fun n => decide (n ∈ Body.translated)) = true := by decide

theorem GenTieAbs_evconsts :
    alookup "EV_SYN" Gen.evTypes = some 0 ∧ alookup "EV_KEY" Gen.evTypes = some 1 ∧ alookup "EV_ABS" Gen.evTypes = some 3 := by
  decide

theorem GenTieAbs_handleABSEvent (d : Dev) (hch : d.channel < 256) (sub : Sub) (node : String) (code : Code) (raw t : Int) :
    Body.handleABSEvent (toG d) sub node code raw t = toGR (d.handleAbs sub node code raw) :=
  handleAbs_tie d hch sub node code raw t

theorem GenTieAbs_processEvent_key (d : Dev) (hch : d.channel < 256) (hdead : d.dead = false) (sub : Sub) (node : String)
    (code : Code) (v : Int) : Body.processEvent (toG d) sub node code v 1 = toGR (d.step (.key sub code v)) :=
  processEvent_key d hch hdead sub node code v

theorem GenTieAbs_processEvent_abs (d : Dev) (hch : d.channel < 256) (hdead : d.dead = false) (sub : Sub) (node : String)
    (code : Code) (v : Int) : Body.processEvent (toG d) sub node code v 3 = toGR (d.step (.abs sub node code v)) :=
  processEvent_abs d hch hdead sub node code v

theorem GenTieAbs_processEvent_syn (d : Dev) (hdead : d.dead = false) (sub : Sub) (node : String) (code : Code) (v : Int) :
    Body.processEvent (toG d) sub node code v 0 = toGR (d.step .syn) :=
  processEvent_syn d hdead sub node code v

/-- in every non-crashed state of every history (keys, axes, SYN, MIDI input) of an accepted configuration -/
theorem GenTieAbs_reachable (cfg : Config) (hacc : Accepted cfg = true) (evs : List Ev)
    (hdead : ((Dev.init cfg).run evs).1.dead = false) (sub : Sub) (node : String) (code : Code) (raw : Int) :
    Body.processEvent (toG ((Dev.init cfg).run evs).1) sub node code raw 3 =
      toGR (((Dev.init cfg).run evs).1.step (.abs sub node code raw)) :=
  processEvent_abs _ (GenTie.kinv_channel (reachable_kinv cfg hacc evs hdead)) hdead sub node code raw

/-- C05 on the generated code: every message the regenerated `processEvent` sends for an in-range axis event is a
    complete, valid MIDI channel message -/
theorem GenTieAbs_C05_wellformed (cfg : Config) (hacc : Accepted cfg = true) (d : Dev) (hd : C05.DevOK cfg d) (hdead : d.dead = false)
    (sub : Sub) (node : String) (code : Code) (raw : Int)
    (hr : evInRange cfg (StObs.ofDev d) (.abs sub node code raw) = true) :
    ∀ o ∈ (Body.processEvent (toG d) sub node code raw 3).out, wellFormed o = true := by
  rw [processEvent_abs d (Nat.lt_trans hd.ch (by decide)) hdead]
  exact C05.C05_step cfg hacc d _ hd hr

end Hidi.Props.GenTieAbs
