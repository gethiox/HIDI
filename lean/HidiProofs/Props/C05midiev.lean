/-
  C05 on the regenerated message constructors: `Hidi/Gen/MidiEv.lean` is the translation of `NoteEvent`,
  `ControlChangeEvent` and `PitchBendEvent` (internal/pkg/midi/event.go) made by tools/extract/midiev.go on every run —
  the order of the three bytes, the `|` of status and channel, the 14-bit scaling `int(math.Round(16383·((val+1)/2)))`,
  the shifts and masks are translated (`uint8` = `Nat` below 256, `int` = `Int`, `float64` = the softfloat of
  `Hidi/Float.lean`).  Each equals, byte for byte, the constructor of the hand-written model (`Hidi.noteEvent`, `ccEvent`,
  `pitchBendEvent`), which the engine model, the regenerated method bodies (`GoLite.noteEv`, `ccEv`, `pbEv`) and every C05
  theorem are stated on — so those constructors are not a modelled primitive but a checked translation.
-/
import Hidi.Gen.MidiEv
import Hidi.Gen.Tables
import HidiProofs.Props.C05full
namespace Hidi.Props.C05
open Hidi Hidi.Spec Hidi.Gen

def bytes : Out → List Nat
  | .midi a b c => [a, b, c]
  | _ => []

theorem C05_gen_ctors_translated : MidiEv.midiCtorsTranslated = true := by decide

theorem or_byte {a b : Nat} (ha : a < 256) (hb : b < 256) : (a ||| b) % 256 = a ||| b :=
  Nat.mod_eq_of_lt (Nat.or_lt_two_pow (n := 8) ha hb)

/-- `NoteEvent(messageType, channel, note, velocity)` as regenerated = the model's constructor, for all bytes -/
theorem C05_gen_noteEvent (ty ch note vel : Nat) (hty : ty < 256) (hch : ch < 256) :
    MidiEv.NoteEvent ty ch note vel = bytes (noteEvent ty ch note vel) := by
  simp only [MidiEv.NoteEvent, noteEvent, bytes, or_byte hty hch]

/-- `ControlChangeEvent(channel, function, value)` as regenerated = the model's constructor -/
theorem C05_gen_ccEvent (ch fn v : Nat) (hch : ch < 256) :
    MidiEv.ControlChangeEvent ch fn v = bytes (ccEvent ch fn v) := by
  have h : (176 ||| ch) % 256 = 176 ||| ch := or_byte (by omega) hch
  simp only [MidiEv.ControlChangeEvent, ccEvent, bytes, stCC, h]

/-- a 7-bit value is unchanged by the conversion to `uint8` -/
theorem mod128_u8 (x : Int) : x % 128 % 256 = x % 128 :=
  Int.emod_eq_of_lt (Int.emod_nonneg _ (by decide)) (Int.lt_trans (Int.emod_lt_of_pos _ (by decide)) (by decide))

/-- `PitchBendEvent(channel, val)` as regenerated = the model's constructor, for every binary64 value `val` -/
theorem C05_gen_pitchBendEvent (ch : Nat) (val : Rat) (hch : ch < 256) :
    MidiEv.PitchBendEvent ch val = bytes (pitchBendEvent ch val) := by
  have h : (224 ||| ch) % 256 = 224 ||| ch := or_byte (by omega) hch
  simp only [MidiEv.PitchBendEvent, pitchBendEvent, bytes, stPB, h, u8]
  rw [mod128_u8, mod128_u8]

/-- the status constants the constructors are called with are the regenerated ones -/
theorem C05_gen_status_consts :
    Gen.midi_NoteOn = stNoteOn ∧ Gen.midi_NoteOff = stNoteOff ∧ Gen.midi_ControlChange = stCC ∧
      Gen.midi_PitchWheelChange = stPB := by decide

/-- C05 stated on the regenerated constructors: on a channel 0‥15 what they build is status + channel followed by the two
    data bytes as given (the equations do not need the data bytes in range; with them in range that is a complete
    three-byte channel message of the right kind) -/
theorem C05_gen_note_wellformed (ch note vel : Nat) (hch : ch < 16) (hn : note ≤ 127) (hv : vel ≤ 127) :
    MidiEv.NoteEvent Gen.midi_NoteOn ch note vel = [0x90 + ch, note, vel] ∧
      MidiEv.NoteEvent Gen.midi_NoteOff ch note 0 = [0x80 + ch, note, 0] := by
  have h1 := st_on ch hch
  have h2 := st_off ch hch
  have b1 : (0x90 ||| ch) % 256 = 0x90 ||| ch := or_byte (by omega) (by omega)
  have b2 : (0x80 ||| ch) % 256 = 0x80 ||| ch := or_byte (by omega) (by omega)
  simp only [MidiEv.NoteEvent, Gen.midi_NoteOn, Gen.midi_NoteOff]
  rw [← b1, ← b2, h1, h2]; exact ⟨rfl, rfl⟩

theorem C05_gen_cc_wellformed (ch fn v : Nat) (hch : ch < 16) :
    MidiEv.ControlChangeEvent ch fn v = [0xB0 + ch, fn, v] := by
  have h1 := st_cc ch hch
  have b1 : (0xB0 ||| ch) % 256 = 0xB0 ||| ch := or_byte (by omega) (by omega)
  simp only [MidiEv.ControlChangeEvent]
  rw [← b1, h1]

/-- every pitch-bend message of the regenerated constructor has its two data bytes below 128, whatever the value -/
theorem C05_gen_pb_wellformed (ch : Nat) (val : Rat) (hch : ch < 16) :
    ∃ lsb msb, MidiEv.PitchBendEvent ch val = [0xE0 + ch, lsb, msb] ∧ lsb < 128 ∧ msb < 128 := by
  have hw := wf_pb hch val
  have he := C05_gen_pitchBendEvent ch val (by omega)
  unfold pitchBendEvent at hw he
  simp only [] at hw he
  rw [wf_midi_iff] at hw
  refine ⟨_, _, ?_, hw.2.2.1, hw.2.2.2⟩
  rw [he, bytes, stPB, st_pb ch hch]

end Hidi.Props.C05
