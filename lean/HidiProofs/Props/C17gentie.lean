/-
  C17 (MIDI-input tracker) on the regenerated code: `Hidi/Gen/Bodies.lean` contains the translation of the receive
  clause of `handleInputEvents` (tools/extract/golite.go), and it equals the model's `Dev.midiIn` for every state and
  every three-byte message.  The tracker theorems of `Props/C17.lean` therefore hold of the code as regenerated on each run.
-/
import HidiProofs.BodiesMidiIn
import HidiProofs.Props.C17
namespace Hidi.Props.C17gen
open Hidi Hidi.GoLite Hidi.Gen Hidi.BodiesTie

theorem C17_gen_translated : "handleInputEvents" ∈ Body.translated := by decide

theorem C17_gen_midi_in (d : Dev) (a b c : Nat) :
    Body.midiInBody (toG d) (a : Int) (b : Int) (c : Int) = toG (d.midiIn a b c) := midiIn_tie d a b c

/-- Note On with velocity 0 removes the note, on the generated code -/
theorem C17_gen_note_on_zero (d : Dev) (ch note : Nat) (hch : ch < 16) :
    (Body.midiInBody (toG d) ((0x90 + ch : Nat) : Int) (note : Int) ((0 : Nat) : Int)).ext = serase (ch, note) d.ext := by
  rw [midiIn_tie]
  exact C17.C17_midi_in_note_on_zero d ch note hch

theorem C17_gen_note_off (d : Dev) (ch note vel : Nat) (hch : ch < 16) :
    (Body.midiInBody (toG d) ((0x80 + ch : Nat) : Int) (note : Int) (vel : Int)).ext = serase (ch, note) d.ext := by
  rw [midiIn_tie]
  exact C17.C17_midi_in_note_off d ch note vel hch

theorem C17_gen_note_on (d : Dev) (ch note vel : Nat) (hch : ch < 16) (hv : 0 < vel) :
    (Body.midiInBody (toG d) ((0x90 + ch : Nat) : Int) (note : Int) (vel : Int)).ext = sinsert (ch, note) d.ext := by
  rw [midiIn_tie]
  exact C17.C17_midi_in_note_on d ch note vel hch hv

end Hidi.Props.C17gen
