/-
  C13 on states of histories of every event kind: the panic press sends All Notes Off plus 128 Note Offs on the current
  channel and leaves both note trackers, the counters, the velocity and the configuration alone — also while axes are
  deflected or emulated notes sound (transfer argument: `Props/C02mixed.lean`).
-/
import HidiProofs.KInvReach
import HidiProofs.Props.C13
namespace Hidi.Props.C13
open Hidi Hidi.Spec Hidi.EngineSim Hidi.AnaIndep Hidi.KInvReach

theorem C13_all_messages {cfg : Config} {d : Dev} (hd : KInv cfg d) (sub : Sub) (code : Code)
    (ha : alookup code cfg.actions = some .panic) (hsw : (kt d code 1).exitComplete = false)
    (hnp : (withAct (kt d code 1) .panic).checkDouble.2 = false) :
    (d.handleKey sub code 1).2 = panicMsgs d.channel := by
  rw [handleKey_split hd]
  have hnp' : (withAct (kt (setAna d []) code 1) .panic).checkDouble.2 = false := by
    have e : withAct (kt (setAna d []) code 1) .panic = setAna (withAct (kt d code 1) .panic) [] := by
      rw [kt_ana]; rfl
    rw [e, checkDouble_ana]; exact hnp
  exact C13_messages hd sub code ha hsw hnp'

/-- the panic press keeps both note trackers, the counters, the velocity and the configuration -/
theorem C13_all_trackers {cfg : Config} {d : Dev} (hd : KInv cfg d) (sub : Sub) (code : Code)
    (ha : alookup code cfg.actions = some .panic) (hsw : (kt d code 1).exitComplete = false) :
    let d' := (d.handleKey sub code 1).1
    d'.noteTr = d.noteTr ∧ d'.anaTr = d.anaTr ∧ d'.counter = d.counter ∧ d'.velocity = d.velocity ∧ d'.cfg = d.cfg := by
  intro d'
  have h := C13_trackers hd sub code ha hsw
  have e : d' = setAna ((setAna d []).handleKey sub code 1).1 d.anaTr := by
    show (d.handleKey sub code 1).1 = _
    rw [handleKey_split hd]; rfl
  rw [e]
  exact ⟨h.1, rfl, h.2.2.1, h.2.2.2.1, h.2.2.2.2⟩

end Hidi.Props.C13
