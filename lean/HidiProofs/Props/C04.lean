/-
  C04 — Transposition, channel arithmetic and state actions.

  * `C04_resolve`       : what `Spec.resolve` is — base note + 12·octave + semitone in unbounded integers, channel
                          `(channel + offset) mod 16`, configured velocity, nothing outside 0..127;
  * `C04_press`         : a press of a mapped key emits exactly the Note On of that pair (modulo the collision rule
                          of C03) and nothing when out of range — the arithmetic of the device (`uint8` channel add,
                          `int` transposition) agrees with the unbounded formula in every state satisfying `DInv`
                          whose counter equals the holders (as in `C03_press`);
  * `C04_unit_step`     : a single (unpaired) action moves its parameter by exactly one / saturates;
  * `C04_pair_reset`    : completing an up/down pair resets that parameter and applies nothing else;
  * `C04_bounds`        : channel stays in 0..15 (1–16), mapping inside the configured list, after every key-only history;
  * `C04_init`          : the configured defaults are the initial state;
  * `C04_monitor`       : the monitor evaluated on the implementation never fires on the model.

  Octave and semitone are `int` fields of `Device` (`C04_source_facts`), the model adds in ℤ, and `C04_unit_step`,
  `C04_init` and `C04_monitor` hold without any range hypothesis on them.  As `int8` (before the repair in the repository) the
  128th `octave_up` wrapped to −128 and `defaults.octave = 200` became −56: `C04_wrap_witness_pre_fix`.
-/
import HidiProofs.KeyHistories
import HidiProofs.Props.C03
import Hidi.Gen.Tables
namespace Hidi.Props.C04
open Hidi Hidi.Spec Hidi.EngineSim Hidi.KeyHist

/-- the monitor evaluated on the implementation never fires on the model: no C04 failure (nor any other) on any key-only
    history of an accepted configuration -/
theorem C04_monitor (cfg : Config) (evs : List Ev) (disc : Bool)
    (hacc : Accepted cfg = true) (hk : evs.all keyOnly = true) :
    checkAll (modelTrace cfg evs disc) = [] :=
  key_histories_all cfg evs disc hacc hk

/-- the field types of `Device`, regenerated from device.go -/
theorem C04_source_facts : Gen.dev_octave_type = "int" ∧ Gen.dev_semitone_type = "int" := by decide

theorem C04_resolve (cfg : Config) (s : StObs) (vel : Nat) (sub : Sub) (code : Code) (m : Mapping) (k : Key)
    (hm : cfg.maps[s.map]? = some m) (hk : alookup (sub, code) m.midi = some k) :
    resolve cfg s vel sub code =
      if (k.note : Int) + 12 * s.oct + s.semi < 0 ∨ (k.note : Int) + 12 * s.oct + s.semi > 127 then none
      else some (((k.note : Int) + 12 * s.oct + s.semi).toNat, (s.ch + k.chOff) % 16, vel) := by
  unfold resolve
  simp only [hm, hk]

/-- **press**: the device sends the messages of exactly the resolved pair, by the collision rule of C03
    (`C03.pressSpec`), and nothing when the key resolves out of range -/
theorem C04_press {cfg : Config} {d : Dev} (hd : DInv cfg d)
    (hcnt : ∀ ch n, d.count ch n = (holders d.noteTr (n, ch) : Int))
    (sub : Sub) (code : Code) (hna : alookup code cfg.actions = none) (hsw : (kt d code 1).exitComplete = false) :
    (d.handleKey sub code 1).2 =
      match resolve cfg (StObs.ofDev d) (u8 cfg.vel) sub code with
      | none => []
      | some (n, ch, v) => C03.pressSpec cfg.mode (holders d.noteTr (n, ch)) ch n v :=
  C03.C03_press hd hcnt sub code hna hsw

/-- first holder of its pitch: exactly one Note On of the resolved pair, in every mode -/
theorem C04_press_fresh {cfg : Config} {d : Dev} (hd : DInv cfg d)
    (hcnt : ∀ ch n, d.count ch n = (holders d.noteTr (n, ch) : Int))
    (sub : Sub) (code : Code) (hna : alookup code cfg.actions = none) (hsw : (kt d code 1).exitComplete = false)
    {n ch v : Nat} (hr : resolve cfg (StObs.ofDev d) (u8 cfg.vel) sub code = some (n, ch, v))
    (hfresh : holders d.noteTr (n, ch) = 0) :
    (d.handleKey sub code 1).2 = [noteOnMsg ch n v] := by
  rw [C04_press hd hcnt sub code hna hsw, hr]
  simp only [C03.pressSpec, hfresh]
  cases cfg.mode <;> rfl

/-- **velocity**: every Note On a key press produces — the first holder's, or the one after the Note Off of an interrupted
    note, in every collision mode — carries the configured velocity -/
theorem C04_velocity {cfg : Config} {d : Dev} (hd : DInv cfg d)
    (hcnt : ∀ ch n, d.count ch n = (holders d.noteTr (n, ch) : Int))
    (sub : Sub) (code : Code) (hna : alookup code cfg.actions = none) (hsw : (kt d code 1).exitComplete = false)
    (st n v : Nat) (hm : Out.midi st n v ∈ (d.handleKey sub code 1).2) (hon : 0x90 ≤ st) :
    v = u8 cfg.vel := by
  rw [C04_press hd hcnt sub code hna hsw] at hm
  split at hm
  · cases hm
  · rename_i n' ch' v' hr
    obtain ⟨-, hch, hv⟩ := resolve_some hr
    rcases C03.pressSpec_mem hm with h | h
    · -- the Note On carries the resolved velocity
      injection h with _ _ h3
      rw [h3, hv]
    · -- a Note Off has a status byte below 0x90
      injection h with h1
      omega

/-- **unit steps / saturation**: octave and semitone move by exactly one (in ℤ, no wrap-around), channel and mapping
    move by one and saturate at the ends; every other action leaves the four values alone -/
theorem C04_unit_step {cfg : Config} {d : Dev} (hd : DInv cfg d) (a : Action) :
    stateKeyOf (StObs.ofDev (d.invokePress a).1) = actionEffect cfg (StObs.ofDev d) a :=
  invokePress_state hd.cfg_eq hd.ch hd.map a

theorem C04_wrap_witness_pre_fix : wrap8 (127 + 1) = -128 ∧ wrap8 200 = -56 := by decide

/-- **pair reset**: when the tracked actions contain exactly one complete pair, `checkDoubleActions` resets that
    parameter to neutral, leaves the other three alone and keeps configuration, velocity, trackers and counter (`Frame`) -/
theorem C04_pair_reset {d : Dev} {p : Action × Action} (h : d.checkDouble.2 = true)
    (hp : completePairs d.actTr = [p]) :
    stateKeyOf (StObs.ofDev d.checkDouble.1) = resetEffect (StObs.ofDev d) p ∧ Frame d d.checkDouble.1 :=
  ⟨checkDouble_one h hp, checkDouble_frame d⟩

/-- ... and the press that completes the pair applies nothing of its own and is silent -/
theorem C04_pair_press_suppressed (d : Dev) (a : Action) (h : (withAct d a).checkDouble.2 = true) :
    actPress d a = ((withAct d a).checkDouble.1, []) := by
  rw [actPress_eq, if_pos h]

/-- **bounds**: channel in 0..15 and mapping inside the list after every key-only history of an accepted configuration -/
theorem C04_bounds {cfg : Config} (hacc : Accepted cfg = true) {evs : List Ev} (hk : evs.all keyOnly = true) :
    ((Dev.init cfg).run evs).1.channel < 16 ∧ ((Dev.init cfg).run evs).1.mapping < cfg.maps.length := by
  have := C02.reachable_dinv hacc hk
  exact ⟨this.ch, this.map⟩

/-- **initial state**: the configured defaults (default channel in 1..16), octave and semitone whatever their size -/
theorem C04_init (cfg : Config) (h3 : 1 ≤ cfg.defCh ∧ cfg.defCh ≤ 16) :
    (Dev.init cfg).octave = cfg.defOct ∧ (Dev.init cfg).semitone = cfg.defSemi ∧
    ((Dev.init cfg).channel : Int) = cfg.defCh - 1 ∧ (Dev.init cfg).mapping = cfg.defMap ∧
    (Dev.init cfg).velocity = u8 cfg.vel := by
  refine ⟨rfl, rfl, ?_, rfl, rfl⟩
  simp only [Dev.init, u8]; omega

def exCfg : Config :=
  { maps := [{ name := "Piano", midi := [(("", 30), ⟨60, 3⟩)], analog := [], dz := [], defDz := [] }],
    actions := [(59, .octaveUp), (60, .octaveDown), (61, .channelUp)], exitSeq := [], mode := .noRepeat,
    defOct := 1, defSemi := -2, defCh := 15, defMap := 0, vel := 100, axes := [] }

/-- octave 1, semitone −2, channel 15 (index 14) + offset 3 = channel index 1; after octave_up: 60+24−2 = 82 -/
example : ((Dev.init exCfg).run [.key "" 30 1, .key "" 30 0, .key "" 59 1, .key "" 30 1]).2 =
    [[noteOnMsg 1 70 100], [noteOffMsg 1 70], [], [noteOnMsg 1 82 100]] := by decide
/-- from octave 127 one more octave-up gives 128, not −128 -/
example : (({ (Dev.init exCfg) with octave := 127 }).invokePress .octaveUp).1.octave = 128 := by decide

end Hidi.Props.C04
