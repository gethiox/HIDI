/-
  C12 (selection order) on the regenerated code: `Hidi/Gen/FindCfg.lean` is the translation of
  `(*DeviceConfigs).FindConfig` (config/loader.go) made by tools/extract/findcfg.go on every run, and it equals the
  model's `findConfig` for every set of loaded maps, every identifier and every device type.  The precedence theorems of
  `Props/C12.lean` (user over factory, exact identifier over default, keyboards / gamepads by device type, errors) are
  therefore theorems about the Go function itself.
-/
import Hidi.Gen.FindCfg
import HidiProofs.Props.C12
namespace Hidi.Props.C12gen
open Hidi Hidi.Gen

theorem C12_gen_translated : Body.findConfigTranslated = true := by decide

/-- one `cfg, ok := m[k]; if ok { return cfg }` of the chain is one `match` of `C12.pickSpec` -/
theorem step_eq (m : List (InputID × String)) (tag : String) (k : InputID) (K : Except FindErr (String × String)) :
    (if (Body.cmLookup m tag k).2 = true then Except.ok (Body.cmLookup m tag k).1 else K) =
      match alookup k m with | some f => .ok (f, tag) | none => K := by
  unfold Body.cmLookup
  cases alookup k m <;> rfl

theorem C12_gen_findConfig (c : DeviceConfigs) (id : InputID) (ty : DevType) :
    Body.findConfig c id ty = findConfig c id ty := by
  cases ty <;> simp only [Body.findConfig, Id.run, pure, beq_self_eq_true, reduceCtorEq, beq_iff_eq, ↓reduceIte]
  case keyboard => rw [C12.C12_precedence_keyboard, step_eq, step_eq, step_eq, step_eq]; rfl
  case joystick => rw [C12.C12_precedence_joystick, step_eq, step_eq, step_eq, step_eq]; rfl
  all_goals rfl

end Hidi.Props.C12gen
