/-
  C18 — Start-up upkeep never touches user files and always restores factory files.
  Theorems about `Hidi.upkeep` (the model of `updateHIDIConfiguration`), for every template and every tree.

  The factory walk is read entry by entry through one equation (`updateFactory_cons`): an entry that is `settled` is passed
  by, otherwise the template's node is written if the parent is a directory and what is there is `compat`ible, otherwise
  the walk stops.  Every tree a walk passes through, interrupted or not, is in `Reach`: written only at listed paths, with
  nodes of the listed kind; what the walk leaves alone and that it keeps trees `Regular` are facts about `Reach`.
-/
import HidiProofs.AList
import Hidi.Upkeep
import Hidi.Gen.Tables
namespace Hidi.Props.C18
open Hidi

/-- nothing left to do at a path the template lists as `nd`: a directory entry finds something (`os.Stat` succeeds), a file
    entry finds its content -/
def settled : Node → Option Node → Bool
  | .dir, o => o.isSome
  | .file d, o => o = some (.file d)

def compat : Node → Option Node → Bool
  | _, none => true
  | .dir, some .dir => true
  | .file _, some (.file _) => true
  | _, _ => false

theorem settled_self (nd : Node) : settled nd (some nd) = true := by cases nd <;> simp [settled]
theorem compat_self (nd : Node) : compat nd (some nd) = true := by cases nd <;> rfl

/-- the tree is *regular* for a list of template entries: where the template has a directory the tree has nothing or a
    directory, where it has a file the tree has nothing or a file (absent, truncated, modified, intact — not type-swapped) -/
def Regular (l : List (String × Node)) (fs : FS) : Prop :=
  (∀ p, (p, Node.dir) ∈ l → alookup p fs = none ∨ alookup p fs = some .dir) ∧
  (∀ p d, (p, Node.file d) ∈ l → alookup p fs = none ∨ ∃ o, alookup p fs = some (.file o))

theorem compat_dir {o : Option Node} : compat .dir o = true ↔ o = none ∨ o = some .dir := by
  rcases o with _ | _ | _ <;> simp [compat]

theorem compat_file {d : String} {o : Option Node} : compat (.file d) o = true ↔ o = none ∨ ∃ x, o = some (.file x) := by
  rcases o with _ | _ | _ <;> simp [compat]

theorem regular_iff {l : List (String × Node)} {fs : FS} :
    Regular l fs ↔ ∀ p nd, (p, nd) ∈ l → compat nd (alookup p fs) = true :=
  ⟨fun h p nd he => by
    cases nd with
    | dir => exact compat_dir.mpr (h.1 p he)
    | file d => exact compat_file.mpr (h.2 p d he),
   fun h => ⟨fun p he => compat_dir.mp (h p _ he), fun p d he => compat_file.mp (h p _ he)⟩⟩

theorem mkdir_eq (fs : FS) (p : String) :
    mkdir fs p = if isDirIn fs (parentOf p) = true ∧ alookup p fs = none then some (ainsert p .dir fs) else none := by
  unfold mkdir
  cases alookup p fs <;> simp

theorem writeFile_eq (fs : FS) (p d : String) :
    writeFile fs p d = if isDirIn fs (parentOf p) = true ∧ alookup p fs ≠ some .dir then some (ainsert p (.file d) fs) else none := by
  unfold writeFile
  by_cases h : isDirIn fs (parentOf p) = true
  · rcases hl : alookup p fs with _ | _ | _ <;> simp [h]
  · simp [h]

theorem writeStates_eq (fs : FS) (p d : String) :
    writeStates fs p d = if isDirIn fs (parentOf p) = true ∧ alookup p fs ≠ some .dir then
      [ainsert p (.file "-") fs, ainsert p (.file d) fs] else [] := by
  rw [writeStates, writeFile_eq]
  by_cases h : isDirIn fs (parentOf p) = true ∧ alookup p fs ≠ some .dir
  · rw [if_pos h, if_pos h]
  · rw [if_neg h, if_neg h]

theorem updateFactory_cons (p : String) (nd : Node) (r : List (String × Node)) (fs : FS) :
    updateFactory ((p, nd) :: r) fs =
      if settled nd (alookup p fs) = true then updateFactory r fs
      else if isDirIn fs (parentOf p) = true ∧ compat nd (alookup p fs) = true then updateFactory r (ainsert p nd fs)
      else (fs, false) := by
  by_cases hd : isDirIn fs (parentOf p) = true <;>
    rcases nd with _ | d <;> rcases hl : alookup p fs with _ | _ | old <;>
    simp [updateFactory, mkdir_eq, writeFile_eq, settled, compat, hl, hd]
  all_goals by_cases he : old = d <;> simp [he]

inductive Reach (l : List (String × Node)) (fs : FS) : FS → Prop
  | refl : Reach l fs fs
  | write {c p nd x} : Reach l fs c → (p, nd) ∈ l → compat nd (some x) = true → Reach l fs (ainsert p x c)

theorem Reach.frame {l : List (String × Node)} {fs c : FS} (h : Reach l fs c) :
    ∀ q, q ∉ l.map (·.1) → alookup q c = alookup q fs := by
  induction h with
  | refl => intro _ _; rfl
  | write _ hp _ ih =>
    intro q hq
    rw [alookup_ainsert_ne (fun e : q = _ => hq (e ▸ List.mem_map_of_mem (f := Prod.fst) hp)), ih q hq]

theorem Reach.regular {l : List (String × Node)} {fs c : FS} (hnd : (l.map (·.1)).Nodup) (hreg : Regular l fs)
    (h : Reach l fs c) : Regular l c := by
  induction h with
  | refl => exact hreg
  | @write c p nd x _ hp hx ih =>
    rw [regular_iff] at ih ⊢
    intro q n hq
    by_cases e : q = p
    · subst e; rw [alookup_ainsert_self, show n = nd from snd_unique hnd hq hp rfl]; exact hx
    · rw [alookup_ainsert_ne e]; exact ih q n hq

theorem Reach.trans {l : List (String × Node)} {a b c : FS} (h1 : Reach l a b) (h2 : Reach l b c) : Reach l a c := by
  induction h2 with
  | refl => exact h1
  | write _ hp hx ih => exact ih.write hp hx

theorem Reach.mono {l : List (String × Node)} (e : String × Node) {a c : FS} (h : Reach l a c) : Reach (e :: l) a c := by
  induction h with
  | refl => exact .refl
  | write _ hp hx ih => exact ih.write (List.mem_cons_of_mem _ hp) hx

theorem updateFactory_reach (l : List (String × Node)) : ∀ fs, Reach l fs (updateFactory l fs).1 := by
  induction l with
  | nil => exact fun _ => .refl
  | cons e r ih =>
    intro fs
    obtain ⟨p, nd⟩ := e
    rw [updateFactory_cons]
    split
    · exact (ih fs).mono _
    · split
      · exact (Reach.refl.write List.mem_cons_self (compat_self nd)).trans ((ih _).mono _)
      · exact .refl

theorem updateFactoryS_cons (p : String) (nd : Node) (r : List (String × Node)) (fs : FS) :
    updateFactoryS ((p, nd) :: r) fs =
      if settled nd (alookup p fs) = true then updateFactoryS r fs
      else if isDirIn fs (parentOf p) = true ∧ compat nd (alookup p fs) = true then
        (match nd with
         | .dir => [ainsert p .dir fs]
         | .file d => [ainsert p (.file "-") fs, ainsert p (.file d) fs]) ++ updateFactoryS r (ainsert p nd fs)
      else [] := by
  by_cases hd : isDirIn fs (parentOf p) = true <;>
    rcases nd with _ | d <;> rcases hl : alookup p fs with _ | _ | old <;>
    simp [updateFactoryS, writeStates_eq, mkdir_eq, writeFile_eq, settled, compat, hl, hd]
  all_goals by_cases he : old = d <;> simp [he]

theorem updateFactoryS_reach (l : List (String × Node)) : ∀ fs, ∀ c ∈ updateFactoryS l fs, Reach l fs c := by
  induction l with
  | nil => intro fs c hc; cases hc
  | cons e r ih =>
    intro fs c hc
    obtain ⟨p, nd⟩ := e
    rw [updateFactoryS_cons] at hc
    split at hc
    · exact (ih fs c hc).mono _
    · split at hc
      · rcases List.mem_append.mp hc with h | h
        · cases nd with
          | dir => simp only [List.mem_singleton] at h; subst h; exact Reach.refl.write List.mem_cons_self rfl
          | file d =>
            simp only [List.mem_cons, List.not_mem_nil, or_false] at h
            rcases h with rfl | rfl <;> exact Reach.refl.write List.mem_cons_self rfl
        · exact (Reach.refl.write List.mem_cons_self (compat_self nd)).trans ((ih _ c h).mono _)
      · cases hc

theorem updateFactory_frame (l : List (String × Node)) (fs : FS) (q : String) (hq : q ∉ l.map (·.1)) :
    alookup q (updateFactory l fs).1 = alookup q fs :=
  (updateFactory_reach l fs).frame q hq

theorem updateFactory_settles (l : List (String × Node)) : ∀ (fs : FS), (l.map (·.1)).Nodup →
    (updateFactory l fs).2 = true → ∀ p nd, (p, nd) ∈ l → settled nd (alookup p (updateFactory l fs).1) = true := by
  induction l with
  | nil => intro fs _ _ p nd h; cases h
  | cons e r ih =>
    intro fs hnd hok p nd hmem
    obtain ⟨p0, nd0⟩ := e
    simp only [List.map_cons, List.nodup_cons] at hnd
    have key : ∃ fs1, updateFactory ((p0, nd0) :: r) fs = updateFactory r fs1 ∧ settled nd0 (alookup p0 fs1) = true := by
      rw [updateFactory_cons] at hok ⊢
      split at hok
      · rename_i hs; exact ⟨fs, by rw [if_pos hs], hs⟩
      · rename_i hs
        split at hok
        · rename_i hw
          exact ⟨_, by rw [if_neg hs, if_pos hw], by rw [alookup_ainsert_self]; exact settled_self nd0⟩
        · cases hok
    obtain ⟨fs1, heq, hhead⟩ := key
    rw [heq] at hok ⊢
    rcases List.mem_cons.mp hmem with h | h
    · cases h; rw [updateFactory_frame r fs1 p hnd.1]; exact hhead
    · exact ih fs1 hnd.2 hok p nd h

theorem updateFactory_fixpoint (l : List (String × Node)) (fs : FS)
    (h : ∀ p nd, (p, nd) ∈ l → settled nd (alookup p fs) = true) : updateFactory l fs = (fs, true) := by
  induction l with
  | nil => rfl
  | cons e r ih =>
    obtain ⟨p, nd⟩ := e
    rw [updateFactory_cons, if_pos (h p nd List.mem_cons_self)]
    exact ih (fun q n hq => h q n (List.mem_cons_of_mem _ hq))

/-- the factory part of the template (what the second walk visits) -/
def facOf (tpl : List (String × Node)) : List (String × Node) := tpl.filter (fun e => under factoryDir e.1)

/-- with the configuration directory present, `upkeep` is the factory walk (outcome `u`) and then the blacklist, written only
    if the walk succeeded and nothing is at its path, with the template's content -/
theorem upkeep_spec (tpl : List (String × Node)) (fs : FS) (hroot : (alookup configDir fs).isSome = true)
    {u : FS × Bool} (hu : updateFactory (facOf tpl) fs = u) :
    (∀ q, q ≠ blacklistPath → alookup q (upkeep tpl fs).1 = alookup q u.1) ∧
    ((alookup blacklistPath u.1).isSome = true → upkeep tpl fs = u) ∧
    ((upkeep tpl fs).2 = true → u.2 = true ∧
      (alookup blacklistPath u.1 = none → ∃ data,
        alookup blacklistPath tpl = some (.file data) ∧ alookup blacklistPath (upkeep tpl fs).1 = some (.file data))) ∧
    (u.2 = true → isDirIn u.1 (parentOf blacklistPath) = true →
      (∃ data, alookup blacklistPath tpl = some (.file data)) → (upkeep tpl fs).2 = true) := by
  have hn : ¬ (alookup configDir fs).isNone = true := by cases h : alookup configDir fs <;> simp_all
  obtain ⟨fs1, ok⟩ := u
  unfold upkeep
  rw [if_neg hn, show tpl.filter (fun e => under factoryDir e.1) = facOf tpl from rfl, hu]
  cases ok with
  | false => simp
  | true =>
    cases hb : alookup blacklistPath fs1 with
    | some x => simp [hb]
    | none =>
      rcases alookup blacklistPath tpl with _ | _ | data
      · simp [hb]
      · simp [hb]
      · by_cases hd : isDirIn fs1 (parentOf blacklistPath) = true <;> simp [writeFile_eq, hb, hd, alookup_ainsert_self]
        intro q hq
        exact alookup_ainsert_ne hq

/-- **user files are untouched**: with the configuration directory present, every path that is not a factory
    template entry keeps exactly what it had — hidi.toml, everything under user/, extra files anywhere, and the
    blacklist when it exists.  (Holds whether or not the run succeeds.) -/
theorem C18_frame (tpl : List (String × Node)) (fs : FS) (hroot : (alookup configDir fs).isSome = true)
    (q : String) (hq : q ∉ (facOf tpl).map (·.1))
    (hb : q ≠ blacklistPath ∨ (alookup blacklistPath fs).isSome = true) :
    alookup q (upkeep tpl fs).1 = alookup q fs := by
  obtain ⟨b1, b2, -, -⟩ := upkeep_spec tpl fs hroot rfl
  have hf := updateFactory_frame (facOf tpl) fs q hq
  by_cases hqb : q = blacklistPath
  · subst hqb
    rw [b2 (by rw [hf]; exact hb.resolve_left (fun h => h rfl)), hf]
  · rw [b1 q hqb, hf]

theorem upkeep_settles (tpl : List (String × Node)) (fs : FS) (hroot : (alookup configDir fs).isSome = true)
    (hnd : ((facOf tpl).map (·.1)).Nodup) (hbl : blacklistPath ∉ (facOf tpl).map (·.1))
    (hok : (upkeep tpl fs).2 = true) :
    ∀ p nd, (p, nd) ∈ facOf tpl → settled nd (alookup p (upkeep tpl fs).1) = true := by
  intro p nd hmem
  obtain ⟨b1, -, b3, -⟩ := upkeep_spec tpl fs hroot rfl
  rw [b1 p (fun he => hbl (he ▸ List.mem_map_of_mem (f := Prod.fst) hmem))]
  exact updateFactory_settles (facOf tpl) fs hnd (b3 hok).1 p nd hmem

/-- **factory files are restored**: after a successful run (configuration directory present) every factory template file
    is present with exactly the template content (template paths distinct; the blacklist is not a factory path) -/
theorem C18_restores (tpl : List (String × Node)) (fs : FS) (hroot : (alookup configDir fs).isSome = true)
    (hnd : ((facOf tpl).map (·.1)).Nodup) (hbl : blacklistPath ∉ (facOf tpl).map (·.1))
    (hok : (upkeep tpl fs).2 = true) :
    ∀ p data, (p, Node.file data) ∈ facOf tpl → alookup p (upkeep tpl fs).1 = some (.file data) :=
  fun p data hmem => by simpa [settled] using upkeep_settles tpl fs hroot hnd hbl hok p _ hmem

/-- **a missing blacklist is created** by a successful run (configuration directory present; the blacklist is not a factory
    path), with the template's content; one that exists is left alone (`C18_frame`) -/
theorem C18_blacklist_created (tpl : List (String × Node)) (fs : FS) (hroot : (alookup configDir fs).isSome = true)
    (hbl : blacklistPath ∉ (facOf tpl).map (·.1)) (habs : alookup blacklistPath fs = none)
    (hok : (upkeep tpl fs).2 = true) :
    ∃ data, alookup blacklistPath tpl = some (.file data) ∧
      alookup blacklistPath (upkeep tpl fs).1 = some (.file data) := by
  obtain ⟨-, -, b3, -⟩ := upkeep_spec tpl fs hroot rfl
  exact (b3 hok).2 (by rw [updateFactory_frame (facOf tpl) fs _ hbl, habs])

theorem configDir_ne_blacklistPath : configDir ≠ blacklistPath := by decide

/-- **idempotent**: a second run after a successful one changes nothing and succeeds (hypotheses of `C18_restores`; the
    configuration directory is not a factory path) -/
theorem C18_idempotent (tpl : List (String × Node)) (fs : FS) (hroot : (alookup configDir fs).isSome = true)
    (hnd : ((facOf tpl).map (·.1)).Nodup) (hbl : blacklistPath ∉ (facOf tpl).map (·.1))
    (hcfg : configDir ∉ (facOf tpl).map (·.1))
    (hok : (upkeep tpl fs).2 = true) :
    upkeep tpl (upkeep tpl fs).1 = ((upkeep tpl fs).1, true) := by
  have hroot' : (alookup configDir (upkeep tpl fs).1).isSome = true := by
    rw [C18_frame tpl fs hroot configDir hcfg (Or.inl configDir_ne_blacklistPath)]; exact hroot
  -- after the first run every factory entry is settled and there is a blacklist, so the second run finds nothing to do
  have hset := upkeep_settles tpl fs hroot hnd hbl hok
  have hblk : (alookup blacklistPath (upkeep tpl fs).1).isSome = true := by
    cases hb : alookup blacklistPath fs with
    | some x => rw [C18_frame tpl fs hroot blacklistPath hbl (Or.inr (by rw [hb]; rfl)), hb]; rfl
    | none =>
      obtain ⟨data, -, h2⟩ := C18_blacklist_created tpl fs hroot hbl hb hok
      rw [h2]; rfl
  exact (upkeep_spec tpl _ hroot' (updateFactory_fixpoint (facOf tpl) _ hset)).2.1 hblk

/-- walking the list, every entry's parent is a directory known by then: one of `known` or an earlier directory entry -/
def Ready : List String → List (String × Node) → Bool
  | _, [] => true
  | known, (p, .dir) :: r => known.contains (parentOf p) && Ready (p :: known) r
  | known, (p, .file _) :: r => known.contains (parentOf p) && Ready known r

def grow (known : List String) (p : String) : Node → List String
  | .dir => p :: known
  | .file _ => known

theorem ready_cons (known : List String) (p : String) (nd : Node) (r : List (String × Node)) :
    Ready known ((p, nd) :: r) = (known.contains (parentOf p) && Ready (grow known p nd) r) := by
  cases nd <;> rfl

theorem mem_grow {known : List String} {p k : String} {nd : Node} (h : k ∈ grow known p nd) :
    k ∈ known ∨ (k = p ∧ nd = .dir) := by
  cases nd
  · exact (List.mem_cons.mp h).symm.imp_right (fun e => ⟨e, rfl⟩)
  · exact Or.inl h

theorem eq_of_settled_compat {nd : Node} {o : Option Node} (hs : settled nd o = true) (hc : compat nd o = true) :
    o = some nd := by
  rcases nd with _ | d <;> rcases o with _ | _ | _ <;> simp_all [settled, compat]

theorem updateFactory_succeeds (l : List (String × Node)) : ∀ (known : List String) (fs : FS),
    (l.map (·.1)).Nodup → (∀ k ∈ known, isDirIn fs k = true ∧ k ∉ l.map (·.1)) →
    Ready known l = true → Regular l fs → (updateFactory l fs).2 = true := by
  induction l with
  | nil => intro _ _ _ _ _ _; rfl
  | cons e r ih =>
    intro known fs hnd hk hready hreg
    obtain ⟨p, nd⟩ := e
    simp only [List.map_cons, List.nodup_cons, List.mem_cons, not_or] at hnd hk
    rw [ready_cons, Bool.and_eq_true] at hready
    rw [regular_iff] at hreg
    have hc := hreg p nd List.mem_cons_self
    have hd := (hk _ (List.contains_iff_mem.mp hready.1)).1
    obtain ⟨fs1, heq, hsame, hp⟩ : ∃ fs1, updateFactory ((p, nd) :: r) fs = updateFactory r fs1 ∧
        (∀ q, q ≠ p → alookup q fs1 = alookup q fs) ∧ alookup p fs1 = some nd := by
      rw [updateFactory_cons]
      by_cases hs : settled nd (alookup p fs) = true
      · exact ⟨fs, by rw [if_pos hs], fun _ _ => rfl, eq_of_settled_compat hs hc⟩
      · exact ⟨_, by rw [if_neg hs, if_pos ⟨hd, hc⟩], fun q hq => alookup_ainsert_ne hq, alookup_ainsert_self⟩
    rw [heq]
    refine ih (grow known p nd) fs1 hnd.2 ?_ hready.2 (regular_iff.mpr ?_)
    · intro k hkm
      rcases mem_grow hkm with h | ⟨rfl, rfl⟩
      · exact ⟨by unfold isDirIn; rw [hsame k (hk k h).2.1]; exact (hk k h).1, (hk k h).2.2⟩
      · exact ⟨by simp [isDirIn, hp], hnd.1⟩
    · intro q n hq
      rw [hsame q (fun e => hnd.1 (e ▸ List.mem_map_of_mem (f := Prod.fst) hq))]
      exact hreg q n (List.mem_cons_of_mem _ hq)

/-- with the configuration directory present, the run succeeds on every tree that is regular for the factory entries: what
    is at the blacklist's path, and whether the blacklist is also a factory path, does not matter -/
theorem upkeep_succeeds (tpl : List (String × Node)) (fs : FS) (hroot : alookup configDir fs = some .dir)
    (hnd : ((facOf tpl).map (·.1)).Nodup) (hcfg : configDir ∉ (facOf tpl).map (·.1))
    (hready : Ready [configDir] (facOf tpl) = true) (hreg : Regular (facOf tpl) fs)
    (hbp : parentOf blacklistPath = configDir)
    (hbt : ∃ data, alookup blacklistPath tpl = some (.file data)) :
    (upkeep tpl fs).2 = true := by
  have hfok := updateFactory_succeeds (facOf tpl) [configDir] fs hnd
    (by intro k hk; simp at hk; subst hk; exact ⟨by simp [isDirIn, hroot], hcfg⟩) hready hreg
  refine (upkeep_spec tpl fs (by rw [hroot]; rfl) rfl).2.2.2 hfok ?_ hbt
  simp [isDirIn, hbp, updateFactory_frame (facOf tpl) fs configDir hcfg, hroot]

/-- **start-up upkeep succeeds on every regular tree** (configuration directory present; a template with what
    `C18_template_facts` states of the repository's): whatever is absent, truncated or modified among the factory entries,
    whatever else is in the tree -/
theorem C18_succeeds (tpl : List (String × Node)) (fs : FS) (hroot : alookup configDir fs = some .dir)
    (hnd : ((facOf tpl).map (·.1)).Nodup) (hcfg : configDir ∉ (facOf tpl).map (·.1))
    (hbl : blacklistPath ∉ (facOf tpl).map (·.1))
    (hready : Ready [configDir] (facOf tpl) = true) (hreg : Regular (facOf tpl) fs)
    (hbp : parentOf blacklistPath = configDir)
    (hbt : ∃ data, alookup blacklistPath tpl = some (.file data))
    (hbr : alookup blacklistPath fs = none ∨ ∃ o, alookup blacklistPath fs = some (.file o)) :
    (upkeep tpl fs).2 = true :=
  upkeep_succeeds tpl fs hroot hnd hcfg hready hreg hbp hbt

/-- every intermediate tree of a factory update (the in-flight file cut anywhere: content `"-"`) of a regular tree agrees
    with the start tree outside the list's (distinct) paths and is regular for the list -/
theorem crashStates_similar (l : List (String × Node)) : ∀ (fs : FS), (l.map (·.1)).Nodup → Regular l fs →
    ∀ c ∈ updateFactoryS l fs, (∀ q, q ∉ l.map (·.1) → alookup q c = alookup q fs) ∧ Regular l c :=
  fun fs hnd hreg c hc => ⟨(updateFactoryS_reach l fs c hc).frame, (updateFactoryS_reach l fs c hc).regular hnd hreg⟩

/-- the result of a factory update (successful or not) of a regular tree is regular again -/
theorem updateFactory_regular (l : List (String × Node)) : ∀ (fs : FS), (l.map (·.1)).Nodup → Regular l fs →
    Regular l (updateFactory l fs).1 :=
  fun fs hnd hreg => (updateFactory_reach l fs).regular hnd hreg

theorem createAll_cons_absent (p : String) (nd : Node) (r : List (String × Node)) (fs : FS) (hn : alookup p fs = none) :
    createAll ((p, nd) :: r) fs = if isDirIn fs (parentOf p) = true then createAll r (ainsert p nd fs) else (fs, false) := by
  by_cases hd : isDirIn fs (parentOf p) = true <;> cases nd <;> simp [createAll, mkdir_eq, writeFile_eq, hn, hd]

/-- where nothing of the list is in the tree yet, creating everything is the factory update -/
theorem createAll_eq (l : List (String × Node)) : ∀ (fs : FS), (l.map (·.1)).Nodup →
    (∀ p ∈ l.map (·.1), alookup p fs = none) → createAll l fs = updateFactory l fs := by
  induction l with
  | nil => intro _ _ _; rfl
  | cons e r ih =>
    intro fs hnd habs
    obtain ⟨p, nd⟩ := e
    simp only [List.map_cons, List.nodup_cons] at hnd
    have hn := habs p List.mem_cons_self
    have hs : ¬ settled nd none = true := by cases nd <;> simp [settled]
    have hc : compat nd none = true := by cases nd <;> rfl
    rw [createAll_cons_absent p nd r fs hn, updateFactory_cons, hn, if_neg hs]
    by_cases hd : isDirIn fs (parentOf p) = true
    · rw [if_pos hd, if_pos ⟨hd, hc⟩]
      refine ih _ hnd.2 fun q hq => ?_
      rw [alookup_ainsert_ne (fun e : q = p => hnd.1 (e ▸ hq))]
      exact habs q (List.mem_cons_of_mem _ hq)
    · rw [if_neg hd, if_neg fun h => hd h.1]

/-- walking the list with nothing of it in the tree yet: everything is created, nothing else is touched -/
theorem createAll_spec (l : List (String × Node)) : ∀ (known : List String) (fs : FS),
    (l.map (·.1)).Nodup → (∀ k ∈ known, isDirIn fs k = true ∧ k ∉ l.map (·.1)) →
    Ready known l = true → (∀ p ∈ l.map (·.1), alookup p fs = none) →
    (createAll l fs).2 = true ∧ (∀ e ∈ l, alookup e.1 (createAll l fs).1 = some e.2) ∧
    (∀ q, q ∉ l.map (·.1) → alookup q (createAll l fs).1 = alookup q fs) := by
  intro known fs hnd hk hready habs
  have hreg : Regular l fs := regular_iff.mpr fun p nd hp => by
    rw [habs p (List.mem_map_of_mem (f := Prod.fst) hp)]; cases nd <;> rfl
  have hok := updateFactory_succeeds l known fs hnd hk hready hreg
  rw [createAll_eq l fs hnd habs]
  exact ⟨hok, fun e he => eq_of_settled_compat (updateFactory_settles l fs hnd hok e.1 e.2 he)
    (regular_iff.mp (updateFactory_regular l fs hnd hreg) e.1 e.2 he), updateFactory_frame l fs⟩

/-- the template as the model sees it (contents are opaque tags) -/
def repoTemplate : List (String × Node) :=
  Gen.templateShape.map (fun e => (e.1, if e.2.1 then Node.dir else Node.file e.2.2))

theorem not_mem_facOf (tpl : List (String × Node)) {q : String} (h : under factoryDir q = false) :
    q ∉ (facOf tpl).map (·.1) := by
  intro hq
  obtain ⟨e, he, rfl⟩ := List.mem_map.mp hq
  rw [(List.mem_filter.mp he).2] at h
  cases h

def hasFile (tpl : List (String × Node)) (p : String) : Bool :=
  match alookup p tpl with
  | some (.file _) => true
  | _ => false

theorem hasFile_spec {tpl : List (String × Node)} {p : String} (h : hasFile tpl p = true) :
    ∃ data, alookup p tpl = some (.file data) := by
  unfold hasFile at h
  split at h
  · rename_i d hd; exact ⟨d, hd⟩
  · cases h

/-- what `C18_template_facts` and `C18_fresh_repo` ask of the embedded template, in one evaluation, by the kernel alone.  What
    costs is `String.toList` on the template's paths: the elaborator's own evaluator would pay it twice over, and the walk
    over the template and the walk over its factory part ask for the parents of the same paths, which one evaluation
    computes once -/
theorem template_eval :
    (((facOf repoTemplate).map (·.1)).Nodup ∧ under factoryDir configDir = false ∧ under factoryDir blacklistPath = false ∧
      Ready [configDir] (facOf repoTemplate) = true ∧ parentOf blacklistPath = configDir ∧
      hasFile repoTemplate blacklistPath = true ∧ (facOf repoTemplate).length ≥ 2) ∧
    configDir ∈ repoTemplate.map (·.1) ∧ (repoTemplate.map (·.1)).Nodup ∧ Ready [""] repoTemplate = true ∧
      "" ∉ repoTemplate.map (·.1) := by decide +kernel

/-- structural facts about the embedded template that the theorems above need — checked by evaluation on every run:
    factory paths are distinct; neither the configuration directory nor the blacklist is a factory path; walking the factory
    part, every entry's parent is the configuration directory or an earlier directory entry; the blacklist lives directly in
    the configuration directory and is a file of the template; the factory part has at least two entries -/
theorem C18_template_facts :
    ((facOf repoTemplate).map (·.1)).Nodup ∧ configDir ∉ (facOf repoTemplate).map (·.1) ∧
    blacklistPath ∉ (facOf repoTemplate).map (·.1) ∧ Ready [configDir] (facOf repoTemplate) = true ∧
    parentOf blacklistPath = configDir ∧ (∃ data, alookup blacklistPath repoTemplate = some (.file data)) ∧
    (facOf repoTemplate).length ≥ 2 := by
  obtain ⟨⟨h1, h2, h3, h4, h5, h6, h7⟩, -⟩ := template_eval
  exact ⟨h1, not_mem_facOf _ h2, not_mem_facOf _ h3, h4, h5, hasFile_spec h6, h7⟩

/-- **for the repository's template**: on every regular tree (the blacklist absent or a file) with the configuration
    directory present, start-up upkeep succeeds, restores every factory file, leaves everything else untouched — the
    blacklist too if there is one — and a second run changes nothing -/
theorem C18_repo (fs : FS) (hroot : alookup configDir fs = some .dir) (hreg : Regular (facOf repoTemplate) fs)
    (hbr : alookup blacklistPath fs = none ∨ ∃ o, alookup blacklistPath fs = some (.file o)) :
    (upkeep repoTemplate fs).2 = true ∧
    (∀ p data, (p, Node.file data) ∈ facOf repoTemplate → alookup p (upkeep repoTemplate fs).1 = some (.file data)) ∧
    (∀ q, q ∉ (facOf repoTemplate).map (·.1) → (q ≠ blacklistPath ∨ (alookup blacklistPath fs).isSome = true) →
      alookup q (upkeep repoTemplate fs).1 = alookup q fs) ∧
    upkeep repoTemplate (upkeep repoTemplate fs).1 = ((upkeep repoTemplate fs).1, true) := by
  obtain ⟨f1, f2, f3, f4, f5, f6, -⟩ := C18_template_facts
  have hroot' : (alookup configDir fs).isSome = true := by rw [hroot]; rfl
  have hok := C18_succeeds repoTemplate fs hroot f1 f2 f3 f4 hreg f5 f6 hbr
  exact ⟨hok, C18_restores repoTemplate fs hroot' f1 f3 hok,
    fun q hq hb => C18_frame repoTemplate fs hroot' q hq hb,
    C18_idempotent repoTemplate fs hroot' f1 f3 f2 hok⟩

theorem upkeepStates_present (tpl : List (String × Node)) (fs : FS) (hroot : (alookup configDir fs).isSome = true) :
    upkeepStates tpl fs =
      updateFactoryS (facOf tpl) fs ++
      (if ¬ (updateFactory (facOf tpl) fs).2 = true then [] else
       match alookup blacklistPath (updateFactory (facOf tpl) fs).1, alookup blacklistPath tpl with
       | none, some (.file data) => writeStates (updateFactory (facOf tpl) fs).1 blacklistPath data
       | _, _ => []) := by
  unfold upkeepStates
  have : ¬ (alookup configDir fs).isNone = true := by
    cases h : alookup configDir fs <;> simp_all
  rw [if_neg this]
  rfl

/-- what an interrupted run (configuration directory present) leaves: the tree is written at factory paths, with nodes of the
    template's kind, and at the blacklist, with a file -/
theorem upkeepStates_reach (tpl : List (String × Node)) (fs : FS) (hroot : (alookup configDir fs).isSome = true)
    (c : FS) (hc : c ∈ upkeepStates tpl fs) :
    Reach ((blacklistPath, .file "") :: facOf tpl) fs c := by
  rw [upkeepStates_present tpl fs hroot] at hc
  rcases List.mem_append.mp hc with h | h
  · exact (updateFactoryS_reach _ fs c h).mono _
  · have hu := (updateFactory_reach (facOf tpl) fs).mono (blacklistPath, .file "")
    split at h
    · cases h
    · split at h
      · rename_i data _ _
        rw [writeStates_eq] at h
        split at h
        · simp only [List.mem_cons, List.not_mem_nil, or_false] at h
          rcases h with h | h <;> rw [h] <;> exact hu.write (x := .file _) List.mem_cons_self rfl
        · cases h
      · cases h

/-- **crash**: take any tree that is regular for the repository's template, with the configuration directory present, and
    any state `c` an interrupted run can leave behind (after any primitive effect, the in-flight file cut anywhere).  Then a
    later run on `c` succeeds, makes every factory file equal to its template again, and everything that is neither a
    factory template path nor the blacklist is exactly as it was before the interrupted run. -/
theorem C18_crash_repo (fs : FS) (hroot : alookup configDir fs = some .dir) (hreg : Regular (facOf repoTemplate) fs)
    (hbr : alookup blacklistPath fs = none ∨ ∃ o, alookup blacklistPath fs = some (.file o))
    (c : FS) (hc : c ∈ upkeepStates repoTemplate fs) :
    (upkeep repoTemplate c).2 = true ∧
    (∀ p data, (p, Node.file data) ∈ facOf repoTemplate → alookup p (upkeep repoTemplate c).1 = some (.file data)) ∧
    (∀ q, q ∉ (facOf repoTemplate).map (·.1) → q ≠ blacklistPath → alookup q (upkeep repoTemplate c).1 = alookup q fs) := by
  obtain ⟨f1, f2, f3, -⟩ := C18_template_facts
  -- `fs` is regular for the factory entries together with the blacklist as a file entry, and so is `c`
  have hnd : (((blacklistPath, Node.file "") :: facOf repoTemplate).map (·.1)).Nodup := by
    rw [List.map_cons, List.nodup_cons]; exact ⟨f3, f1⟩
  have hreg' : Regular ((blacklistPath, .file "") :: facOf repoTemplate) fs := by
    rw [regular_iff] at hreg ⊢
    intro p nd hp
    rcases List.mem_cons.mp hp with h | h
    · cases h; exact compat_file.mpr hbr
    · exact hreg p nd h
  have hr := upkeepStates_reach repoTemplate fs (by rw [hroot]; rfl) c hc
  have s2 := regular_iff.mp (hr.regular hnd hreg')
  have s1 : ∀ q, q ∉ (facOf repoTemplate).map (·.1) → q ≠ blacklistPath → alookup q c = alookup q fs :=
    fun q hq hqb => hr.frame q (by simpa [hqb] using hq)
  obtain ⟨r1, r2, r3, -⟩ := C18_repo c (by rw [s1 configDir f2 configDir_ne_blacklistPath]; exact hroot)
    (regular_iff.mpr fun p nd hp => s2 p nd (List.mem_cons_of_mem _ hp)) (compat_file.mp (s2 _ _ List.mem_cons_self))
  exact ⟨r1, r2, fun q hq hqb => by rw [r3 q hq (Or.inl hqb), s1 q hq hqb]⟩

/-- **absent configuration directory**: on a tree that has nothing at any template path, the run succeeds, the complete
    template tree exists afterwards, and nothing else is touched -/
theorem C18_fresh_repo (fs : FS) (habs : ∀ p ∈ repoTemplate.map (·.1), alookup p fs = none) :
    (upkeep repoTemplate fs).2 = true ∧ (∀ e ∈ repoTemplate, alookup e.1 (upkeep repoTemplate fs).1 = some e.2) ∧
    (∀ q, q ∉ repoTemplate.map (·.1) → alookup q (upkeep repoTemplate fs).1 = alookup q fs) := by
  have h := template_eval.2
  have hnone : (alookup configDir fs).isNone = true := by rw [habs configDir h.1]; rfl
  have : upkeep repoTemplate fs = createAll repoTemplate fs := by unfold upkeep; rw [if_pos hnone]
  rw [this]
  refine createAll_spec repoTemplate [""] fs h.2.1 (fun k hk => ?_) h.2.2.1 habs
  cases List.mem_singleton.mp hk
  exact ⟨rfl, h.2.2.2⟩

def nodeOf (e : String × Node) : Node := e.2

/-- non-vacuity: the template of the repository has at least ten entries, the configuration directory itself among them -/
theorem C18_template_nonempty : repoTemplate.length ≥ 10 ∧ (configDir, Node.dir) ∈ repoTemplate := by
  constructor <;> decide

end Hidi.Props.C18
