/-
  C06 on the regenerated pitch-bend constructor (`Hidi/Gen/MidiEv.lean`, translated from internal/pkg/midi/event.go on every
  run): the two data bytes it builds are the 7-bit halves of `target = int(math.Round(16383·((val+1)/2)))`, so the 14-bit
  value at the receiver, `lsb + 128·msb`, is exactly `target` whenever `target` is inside 0‥16383 — which the C06 theorems
  about `pitchBendEvent` (`C06_pb_*`, `C06_pb_accuracy`) establish for every shaped axis value.  A mask or shift that loses
  a bit (or swapped bytes) breaks this theorem.
-/
import HidiProofs.Props.C05midiev
import HidiProofs.Props.C06
namespace Hidi.Props.C06
open Hidi Hidi.Gen

theorem C06_gen_pitchBend_bytes (ch : Nat) (val : Rat) :
    MidiEv.PitchBendEvent ch val =
      [224 ||| ch, ((pbTarget val % 128) % 256).toNat, ((pbTarget val / 128 % 128) % 256).toNat] := by
  simp only [MidiEv.PitchBendEvent, pbTarget, u8]

/-- the receiver's 14-bit value is the rounded target, on the regenerated constructor -/
theorem C06_gen_pitchBend_value (ch : Nat) (val : Rat) (h0 : 0 ≤ pbTarget val) (h1 : pbTarget val ≤ 16383) :
    ∃ lsb msb, MidiEv.PitchBendEvent ch val = [224 ||| ch, lsb, msb] ∧ lsb < 128 ∧ msb < 128 ∧
      ((lsb + 128 * msb : Nat) : Int) = pbTarget val := by
  refine ⟨_, _, C06_gen_pitchBend_bytes ch val, ?_⟩
  obtain ⟨n, hn⟩ := Int.eq_ofNat_of_zero_le h0
  rw [hn] at h1 ⊢
  -- on a natural number the masks and the conversions to `uint8` act in `Nat`
  show n % 128 % 256 < 128 ∧ n / 128 % 128 % 256 < 128 ∧ ((n % 128 % 256 + 128 * (n / 128 % 128 % 256) : Nat) : Int) = n
  omega

/-- for every shaped value (−1 ≤ val ≤ 1, which `C06_shape_range` gives for every in-range axis position) the bytes the
    regenerated constructor builds carry exactly the rounded 14-bit target -/
theorem C06_gen_pitchBend_shaped (ch : Nat) (val : Rat) (h0 : -1 ≤ val) (h1 : val ≤ 1) :
    ∃ lsb msb, MidiEv.PitchBendEvent ch val = [224 ||| ch, lsb, msb] ∧ lsb < 128 ∧ msb < 128 ∧
      ((lsb + 128 * msb : Nat) : Int) = pbTarget val :=
  C06_gen_pitchBend_value ch val (C06_pb_range h0 h1).1 (C06_pb_range h0 h1).2

/-- these are the bytes the model transmits (`Hidi.pitchBendEvent`, on which `C06_pb_*` are stated) -/
theorem C06_gen_pitchBend_model (ch : Nat) (val : Rat) (hch : ch < 16) :
    MidiEv.PitchBendEvent ch val = Hidi.Props.C05.bytes (pitchBendEvent ch val) :=
  Hidi.Props.C05.C05_gen_pitchBendEvent ch val (by omega)

end Hidi.Props.C06
