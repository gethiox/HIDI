/-
  C02 — The release of a key is pinned to its press; state actions are silent.

  * `C02_press_records`  : a sounding press records exactly the (note, channel) it resolved to *then*;
  * `C02_frame_*`        : action presses (other than one completing the exit sequence) / releases never touch the
                           tracker (so the record survives any number of octave / semitone / channel / mapping
                           changes, pair resets and panics);
  * `C02_release_pinned` : the release of a key emits nothing but the Note Off of the recorded pair — whatever the
                           current octave, semitone, channel and mapping are, also when the key is no longer
                           mapped in the current mapping;
  * `C02_actions_silent` : a press or release of a key bound to a state action emits no MIDI at all;
  * `C02_monitor`        : the monitor evaluated on the implementation never fires on the model.

  All statements are about *every* state satisfying the invariant `DInv` (every state reachable by a key-only
  history of an accepted configuration, `reachable_dinv`).
-/
import HidiProofs.KeyHistories
namespace Hidi.Props.C02
open Hidi Hidi.Spec Hidi.EngineSim Hidi.KeyHist

theorem C02_monitor (cfg : Config) (evs : List Ev) (disc : Bool)
    (hacc : Accepted cfg = true) (hk : evs.all keyOnly = true) :
    failsOf "C02" (checkAll (modelTrace cfg evs disc)) = [] :=
  no_fails "C02" cfg evs disc hacc hk

theorem reachable_dinv {cfg : Config} (hacc : Accepted cfg = true) {evs : List Ev} (hk : evs.all keyOnly = true) :
    DInv cfg ((Dev.init cfg).run evs).1 :=
  run_dinv evs (inv_init hacc).dinv hk

/-- a press of a note key (not bound to an action, not completing the exit sequence): the tracker records
    the pair the key resolves to in the state of the press -/
theorem C02_press_records {cfg : Config} {d : Dev} (hd : DInv cfg d) (sub : Sub) (code : Code)
    (hna : alookup code cfg.actions = none) (hsw : (kt d code 1).exitComplete = false) :
    (d.handleKey sub code 1).1.noteTr =
      match resolve cfg (StObs.ofDev d) (u8 cfg.vel) sub code with
      | none => d.noteTr
      | some (n, ch, _) => ainsert code (n, ch) d.noteTr := by
  rw [handleKey_note1 hd sub code hna hsw]
  rcases resolve cfg (StObs.ofDev d) (u8 cfg.vel) sub code with _ | ⟨n, ch, v⟩ <;> rfl

theorem C02_frame_action_press {cfg : Config} {d : Dev} (hd : DInv cfg d) (sub : Sub) (code : Code) (a : Action)
    (ha : alookup code cfg.actions = some a) (hsw : (kt d code 1).exitComplete = false) :
    (d.handleKey sub code 1).1.noteTr = d.noteTr := by
  rw [handleKey_act1 hd sub code ha hsw]
  exact (actPress_frame (kt d code 1) a).noteTr

theorem C02_frame_action_release {cfg : Config} {d : Dev} (hd : DInv cfg d) (sub : Sub) (code : Code) (a : Action)
    (ha : alookup code cfg.actions = some a) :
    (d.handleKey sub code 0).1.noteTr = d.noteTr ∧ (d.handleKey sub code 0).2 = [] := by
  rw [handleKey_act0 hd sub code ha]
  exact ⟨(actRelease_kept _ a).noteTr, rfl⟩

/-- **release pinned to the press**: the release of a note key emits at most the Note Off of the recorded
    pair, and nothing when nothing is recorded; the current octave / semitone / channel / mapping do not enter -/
theorem C02_release_pinned {cfg : Config} {d : Dev} (hd : DInv cfg d) (sub : Sub) (code : Code)
    (hna : alookup code cfg.actions = none) :
    (d.handleKey sub code 0).2 =
      match alookup code d.noteTr with
      | none => []
      | some (n, ch) => releaseOuts cfg.mode (decide (d.count ch n = 1)) ch n := by
  rw [handleKey_note0 hd sub code hna]
  rcases alookup code d.noteTr with _ | ⟨n, ch⟩ <;> rfl

/-- ... and every message of `releaseOuts` is the Note Off of that pair -/
theorem C02_release_only_own_off (mode : Collision) (last : Bool) (ch n : Nat) :
    ∀ o ∈ releaseOuts mode last ch n, o = noteOffMsg ch n := by
  intro o ho
  unfold releaseOuts at ho
  cases mode <;> cases last <;> simp at ho <;> exact ho

/-- **state actions are silent**: octave / semitone / channel / mapping up and down (single or completing a pair),
    multinote and cc_learning emit no MIDI message, on press and on release -/
theorem C02_actions_silent {cfg : Config} {d : Dev} (hd : DInv cfg d) (sub : Sub) (code : Code) (a : Action)
    (ha : alookup code cfg.actions = some a) (hs : isStateAction a = true) (val : Int) :
    ∀ o ∈ (d.handleKey sub code val).2, isMidi o = false := by
  obtain ⟨-, -, h⟩ := handleKey_model hd sub code val
  split at h
  · rw [h]; intro o ho; cases ho with | head => rfl | tail _ h => cases h
  · rw [h.2 (by simp [stateActionOf, ha, hs])]; intro o ho; cases ho

def exCfg : Config :=
  { maps := [{ name := "Piano", midi := [(("", 30), ⟨60, 0⟩)], analog := [], dz := [], defDz := [] }],
    actions := [(59, .octaveUp)], exitSeq := [], mode := .interrupt, defOct := 0, defSemi := 0, defCh := 1,
    defMap := 0, vel := 64, axes := [] }

/-- press, octave up (silent), release: the Note Off is for note 60, not 72 -/
example : ((Dev.init exCfg).run [.key "" 30 1, .key "" 59 1, .key "" 59 0, .key "" 30 0]).2 =
    [[noteOnMsg 0 60 64], [], [], [noteOffMsg 0 60]] := by decide

end Hidi.Props.C02
