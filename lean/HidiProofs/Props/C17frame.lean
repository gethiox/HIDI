/-
  C17 on the regenerated code: the whole frame.  `Hidi/Gen/LedFrame.lean` is the translation of the frame computation of
  the LED refresh loop (tools/extract/ledframe.go: the statements between `d.eventProcessMutex.Lock()` and `UpdateLEDs`),
  and for every device state, LED layout, controller name and colour configuration it computes the model's `Led.frame`
  — the function `C17_refinement`, `C17_pitch_class`, `C17_action_key`, `C17_external` … are about.  `sc` stands for
  `shiftColor(·, 0)` (the HSV round trip of go-colorful), `cw cb cc` for the configured white / black / C colours.
-/
import HidiProofs.LedTie
import HidiProofs.Props.C17
namespace Hidi.Props.C17frame
open Hidi Hidi.Led Hidi.GoLite Hidi.Gen Hidi.LedTie Hidi.LedSpec

theorem C17_gen_frame_translated : Body.ledFrameTranslated = true := by decide

theorem C17_gen_frame (d : Dev) (devName : String) (leds : List String) (sc : RGB → RGB) (cw cb cc : RGB) :
    Body.ledFrame (toG d) devName leds sc cw cb cc = frame true d devName leds (sc cw, sc cb, sc cc) :=
  ledFrame_eq d devName leds sc cw cb cc

/-- the refinement theorem on the regenerated frame: every LED shows `highlight` of its base colour -/
theorem C17_gen_refinement (d : Dev) (devName : String) (leds : List String) (sc : RGB → RGB) (cw cb cc : RGB) (m : Mapping)
    (hm : d.curMap = some m) :
    ∃ base l, frameBase true d devName leds (sc cw, sc cb, sc cc) m = .ok base ∧
      Body.ledFrame (toG d) devName leds sc cw cb cc = .ok l ∧ base.length = leds.length ∧ l.length = leds.length ∧
      ∀ i (hi : i < base.length), l[i]? = some (highlight d leds m base[i] i) := by
  rw [C17_gen_frame]
  exact C17.C17_refinement d devName leds (sc cw, sc cb, sc cc) m hm

end Hidi.Props.C17frame
