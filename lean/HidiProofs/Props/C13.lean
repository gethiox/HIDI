/-
  C13 — Panic silences the current channel and leaves the device consistent.

  * `C13_messages`    : an (unswallowed, unpaired) panic press emits exactly CC 123 value 0 followed by Note Off for
                        the notes 0..127, all on the current channel — `panicMsgs d.channel`;
  * `C13_quiet`       : none of these can start a sound (no Note On with velocity > 0);
  * `C13_state`, `C13_trackers` : the press changes nothing of the playing state: octave, semitone, channel, mapping
                        (`C13_state`; unless `checkDoubleActions` fires on an up/down pair held at that moment), velocity, the
                        note trackers and the counters (`C13_trackers`) are untouched (the key / action trackers and the
                        MIDI-input tracker, which is cleared, do change);
  * `C13_press_release_identity` : after press and release of the panic key the device equals the device before,
                        with the MIDI-input tracker cleared;
  * `C13_ext_irrelevant` : key handling never reads the MIDI-input tracker — outputs are identical and the states
                        stay identical up to that tracker.  Together: every continuation of key events behaves exactly as
                        if the panic had not happened (`C13_as_if_not_happened`), in particular keys still held release
                        with at most their own recorded Note Off (C02) and later presses are unaffected;
  * `C13_monitor`     : the monitor evaluated on the implementation never fires on the model.
-/
import HidiProofs.KeyHistories
namespace Hidi.Props.C13
open Hidi Hidi.Spec Hidi.EngineSim Hidi.KeyHist

theorem C13_monitor (cfg : Config) (evs : List Ev) (disc : Bool)
    (hacc : Accepted cfg = true) (hk : evs.all keyOnly = true) :
    failsOf "C13" (checkAll (modelTrace cfg evs disc)) = [] :=
  no_fails "C13" cfg evs disc hacc hk

/-- the panic press when no up/down pair is completed by it (panic itself belongs to no pair) -/
theorem C13_messages {cfg : Config} {d : Dev} (hd : DInv cfg d) (sub : Sub) (code : Code)
    (ha : alookup code cfg.actions = some .panic) (hsw : (kt d code 1).exitComplete = false)
    (hnp : (withAct (kt d code 1) .panic).checkDouble.2 = false) :
    (d.handleKey sub code 1).2 = panicMsgs d.channel := by
  rw [handleKey_act1 hd sub code ha hsw, actPress_eq, if_neg (by simp [hnp]), invokePress_outs, if_pos rfl]
  exact panicOuts_eq hd.ch

/-- nothing in the panic messages can start a sound -/
theorem C13_quiet (ch : Nat) : (panicMsgs ch).all quiet = true := panicMsgs_quiet ch

theorem C13_messages_shape (ch : Nat) :
    panicMsgs ch = .midi (0xB0 + ch) 123 0 :: (List.range 128).map (fun n => .midi (0x80 + ch) n 0) := rfl

/-- the press leaves octave, semitone, channel and mapping alone — unless an up/down pair is held at that moment and
    `checkDoubleActions` fires on it (second disjunct) -/
theorem C13_state {cfg : Config} {d : Dev} (hd : DInv cfg d) (sub : Sub) (code : Code)
    (ha : alookup code cfg.actions = some .panic) (hsw : (kt d code 1).exitComplete = false) :
    let d' := (d.handleKey sub code 1).1
    stateKeyOf (StObs.ofDev d') = stateKeyOf (StObs.ofDev d) ∨ (withAct (kt d code 1) .panic).checkDouble.2 = true := by
  intro d'
  by_cases hnp : (withAct (kt d code 1) .panic).checkDouble.2 = true
  · exact Or.inr hnp
  · left
    show stateKeyOf (StObs.ofDev (d.handleKey sub code 1).1) = _
    rw [handleKey_act1 hd sub code ha hsw, actPress_eq, if_neg hnp, invokePress_stateKey]
    -- `pressStateKey _ .panic` is the state key itself, by computation
    exact congrArg stateKeyOf ((kt_kept d code 1).trans (withAct_kept _ .panic)).ofDev

theorem C13_trackers {cfg : Config} {d : Dev} (hd : DInv cfg d) (sub : Sub) (code : Code)
    (ha : alookup code cfg.actions = some .panic) (hsw : (kt d code 1).exitComplete = false) :
    let d' := (d.handleKey sub code 1).1
    d'.noteTr = d.noteTr ∧ d'.anaTr = d.anaTr ∧ d'.counter = d.counter ∧ d'.velocity = d.velocity ∧ d'.cfg = d.cfg := by
  intro d'
  have e : d' = (actPress (kt d code 1) .panic).1 := congrArg Prod.fst (handleKey_act1 hd sub code ha hsw)
  have hf := actPress_frame (kt d code 1) .panic
  have hk := (kt_kept d code 1).trans (withAct_kept _ .panic)
  rw [e]
  exact ⟨hf.noteTr.trans hk.noteTr, hf.anaTr.trans hk.anaTr, hf.counter.trans hk.counter,
    hf.velocity.trans hk.velocity, hf.cfg.trans hk.cfg⟩

def withExt (d : Dev) (x : List (Nat × Nat)) : Dev := { d with ext := x }

/-- press and release of the panic key (fresh key, panic not already tracked, no pair completed): the device is
    back where it was, with the MIDI-input tracker cleared -/
theorem C13_press_release_identity {cfg : Config} {d : Dev} (hd : DInv cfg d) (sub : Sub) (code : Code)
    (ha : alookup code cfg.actions = some .panic) (hsw : (kt d code 1).exitComplete = false)
    (hnp : (withAct (kt d code 1) .panic).checkDouble.2 = false)
    (hkey : code ∉ d.keyTr) (hact : Action.panic ∉ d.actTr) :
    ((d.handleKey sub code 1).1.handleKey sub code 0).1 = withExt d [] ∧
    ((d.handleKey sub code 1).1.handleKey sub code 0).2 = [] := by
  have e1 : (d.handleKey sub code 1).1 = ((withAct (kt d code 1) .panic).invokePress .panic).1 := by
    rw [handleKey_act1 hd sub code ha hsw, actPress_eq, if_neg (by simp [hnp])]
  rw [handleKey_act0 (handleKey_model hd sub code 1).1 sub code ha, e1]
  -- by computation: the press puts key and action into their trackers and clears `ext`, the release takes both out
  simp only [Dev.invokePress, withAct, kt_eq, actRelease_eq, withExt, reduceCtorEq, Int.reduceEq, if_true, if_false,
    and_true, serase_sinsert hkey, serase_sinsert hact]

theorem kt_ext (d : Dev) (x : List (Nat × Nat)) (code : Code) (val : Int) :
    kt (withExt d x) code val = withExt (kt d code val) x := by
  rw [kt_eq, kt_eq]; rfl

theorem checkDouble_ext (d : Dev) (x : List (Nat × Nat)) :
    (withExt d x).checkDouble = (withExt d.checkDouble.1 x, d.checkDouble.2) := by
  rw [checkDouble_eq, checkDouble_eq, show (withExt d x).actTr = d.actTr from rfl]
  cases dblPair d.actTr <;> rfl

/-- `invokePress` either keeps the tracker (`x`) or clears it (panic) — in both cases independently of the rest -/
theorem invokePress_ext (d : Dev) (x : List (Nat × Nat)) (a : Action) :
    ((withExt d x).invokePress a).2 = (d.invokePress a).2 ∧
    withExt ((withExt d x).invokePress a).1 [] = withExt (d.invokePress a).1 [] := by
  rw [invokePress_eq, invokePress_eq]; exact ⟨rfl, rfl⟩

theorem actRelease_ext (d : Dev) (x : List (Nat × Nat)) (a : Action) :
    actRelease (withExt d x) a = withExt (actRelease d a) x := by
  rw [actRelease_eq, actRelease_eq]; rfl

theorem actPress_ext (d : Dev) (x : List (Nat × Nat)) (a : Action) :
    (actPress (withExt d x) a).2 = (actPress d a).2 ∧
    withExt (actPress (withExt d x) a).1 [] = withExt (actPress d a).1 [] := by
  rw [actPress_eq, actPress_eq, show withAct (withExt d x) a = withExt (withAct d a) x from rfl, checkDouble_ext]
  -- the result of `checkDoubleActions` as a variable: otherwise the `rfl`s below unfold it
  generalize (withAct d a).checkDouble = r
  by_cases h : r.2 = true
  · rw [if_pos h, if_pos h]; exact ⟨rfl, rfl⟩
  · rw [if_neg h, if_neg h]; exact invokePress_ext _ x a

theorem dinv_ext {cfg : Config} {d : Dev} (hd : DInv cfg d) (x : List (Nat × Nat)) : DInv cfg (withExt d x) :=
  (show Kept d (withExt d x) from ⟨rfl, rfl, rfl, rfl, rfl, rfl, rfl, rfl, rfl, rfl⟩).dinv hd

theorem withExt_withExt (d : Dev) (x y : List (Nat × Nat)) : withExt (withExt d x) y = withExt d y := rfl

/-- **key handling never reads the MIDI-input tracker**: same outputs, same next state up to that tracker -/
theorem C13_ext_irrelevant {cfg : Config} {d : Dev} (hd : DInv cfg d) (x : List (Nat × Nat))
    (sub : Sub) (code : Code) (val : Int) :
    ((withExt d x).handleKey sub code val).2 = (d.handleKey sub code val).2 ∧
    withExt ((withExt d x).handleKey sub code val).1 [] = withExt (d.handleKey sub code val).1 [] := by
  have hx := dinv_ext hd x
  by_cases h1 : val = 1
  · subst h1
    by_cases hsw : (kt d code 1).exitComplete = true
    · rw [handleKey_sw hx sub code hsw, handleKey_sw hd sub code hsw]; exact ⟨rfl, rfl⟩
    have hsw := Bool.eq_false_iff.mpr hsw
    cases ha : alookup code cfg.actions with
    | some a => rw [handleKey_act1 hx sub code ha hsw, handleKey_act1 hd sub code ha hsw, kt_ext]; exact actPress_ext _ x a
    | none =>
      rw [handleKey_note1 hx sub code ha hsw, handleKey_note1 hd sub code ha hsw,
        show StObs.ofDev (withExt d x) = StObs.ofDev d from rfl]
      rcases resolve cfg (StObs.ofDev d) (u8 cfg.vel) sub code with _ | ⟨n, ch, v⟩ <;> exact ⟨rfl, rfl⟩
  by_cases h0 : val = 0
  · subst h0
    cases ha : alookup code cfg.actions with
    | some a =>
      rw [handleKey_act0 hx sub code ha, handleKey_act0 hd sub code ha, kt_ext, actRelease_ext]; exact ⟨rfl, rfl⟩
    | none =>
      rw [handleKey_note0 hx sub code ha, handleKey_note0 hd sub code ha, show (withExt d x).noteTr = d.noteTr from rfl]
      rcases alookup code d.noteTr with _ | ⟨n, ch⟩ <;> exact ⟨rfl, rfl⟩
  · rw [handleKey_other hx sub code h0 h1, handleKey_other hd sub code h0 h1, kt_ext]; exact ⟨rfl, rfl⟩

/-- key events only (value 2 repeats are dropped before the handler) -/
def keyRun (d : Dev) : List (Sub × Code × Int) → Dev × List (List Out)
  | [] => (d, [])
  | (s, c, v) :: r => let p := d.handleKey s c v; let q := keyRun p.1 r; (q.1, p.2 :: q.2)

/-- **continuations are unaffected**: running any key history (no value-2 repeats) from a state `d` satisfying `DInv` and
    from `d` with another MIDI-input tracker (in particular the cleared one a panic leaves behind) produces the same
    outputs step by step -/
theorem C13_as_if_not_happened {cfg : Config} (hacc : Accepted cfg = true) (evs : List (Sub × Code × Int))
    (hv : ∀ e ∈ evs, e.2.2 ≠ 2) :
    ∀ (d : Dev) (x : List (Nat × Nat)), DInv cfg d →
      (keyRun (withExt d x) evs).2 = (keyRun d evs).2 := by
  induction evs with
  | nil => intro d x _; rfl
  | cons e es ih =>
    intro d x hd
    obtain ⟨s, c, v⟩ := e
    obtain ⟨h1, h2⟩ := C13_ext_irrelevant hd x s c v
    simp only [keyRun]
    rw [h1]
    congr 1
    have hd1 := (handleKey_model hd s c v).1
    have hd2 := (handleKey_model (dinv_ext hd x) s c v).1
    have hes : ∀ e ∈ es, e.2.2 ≠ 2 := fun e he => hv e (List.mem_cons_of_mem _ he)
    have a1 := ih hes ((withExt d x).handleKey s c v).1 [] hd2
    have a2 := ih hes (d.handleKey s c v).1 [] hd1
    rw [← a1, ← a2, h2]

/-! ### non-vacuity: panic with a key held on another channel, then the key releases its own Note Off -/

def exCfg : Config :=
  { maps := [{ name := "Piano", midi := [(("", 30), ⟨60, 2⟩)], analog := [], dz := [], defDz := [] }],
    actions := [(1, .panic)], exitSeq := [], mode := .noRepeat, defOct := 0, defSemi := 0, defCh := 3,
    defMap := 0, vel := 64, axes := [] }

example : ((Dev.init exCfg).run [.key "" 30 1, .key "" 1 1, .key "" 1 0, .key "" 30 0]).2 =
    [[noteOnMsg 4 60 64], panicMsgs 2, [], [noteOffMsg 4 60]] := by decide

end Hidi.Props.C13
