/-
  C02 on states of histories of every event kind.  `KInv` (= `DInv` with the analog note tracker set aside) holds in every
  non-crashed state reached by keys, axes, SYN and MIDI input in any order (`KInvReach.reachable_kinv`), the key handler
  neither reads nor writes the analog tracker (`AnaIndep.handleKey_ana`; used as `handleKey_split`: set the tracker aside,
  handle the key, put it back), so the per-event theorems of `Props/C02.lean` hold there too:
  a deflected key-emulating axis, a sounding emulated note or an action held by an axis do not change what a key press
  records or what its release sends.
-/
import HidiProofs.KInvReach
import HidiProofs.Props.C02
namespace Hidi.Props.C02
open Hidi Hidi.Spec Hidi.EngineSim Hidi.AnaIndep Hidi.KInvReach

theorem reachable_kinv_all (cfg : Config) (hacc : Accepted cfg = true) (evs : List Ev)
    (hdead : ((Dev.init cfg).run evs).1.dead = false) : KInv cfg ((Dev.init cfg).run evs).1 :=
  reachable_kinv cfg hacc evs hdead

theorem C02_all_press_records {cfg : Config} {d : Dev} (hd : KInv cfg d) (sub : Sub) (code : Code)
    (hna : alookup code cfg.actions = none) (hsw : (kt d code 1).exitComplete = false) :
    (d.handleKey sub code 1).1.noteTr =
      match resolve cfg (StObs.ofDev d) (u8 cfg.vel) sub code with
      | none => d.noteTr
      | some (n, ch, _) => ainsert code (n, ch) d.noteTr := by
  rw [handleKey_split hd]
  exact C02_press_records hd sub code hna hsw

theorem C02_all_frame_action_press {cfg : Config} {d : Dev} (hd : KInv cfg d) (sub : Sub) (code : Code) (a : Action)
    (ha : alookup code cfg.actions = some a) (hsw : (kt d code 1).exitComplete = false) :
    (d.handleKey sub code 1).1.noteTr = d.noteTr := by
  rw [handleKey_split hd]
  exact C02_frame_action_press hd sub code a ha hsw

theorem C02_all_frame_action_release {cfg : Config} {d : Dev} (hd : KInv cfg d) (sub : Sub) (code : Code) (a : Action)
    (ha : alookup code cfg.actions = some a) :
    (d.handleKey sub code 0).1.noteTr = d.noteTr ∧ (d.handleKey sub code 0).2 = [] := by
  rw [handleKey_split hd]
  exact C02_frame_action_release hd sub code a ha

/-- **release pinned to the press**, whatever the axes are doing -/
theorem C02_all_release_pinned {cfg : Config} {d : Dev} (hd : KInv cfg d) (sub : Sub) (code : Code)
    (hna : alookup code cfg.actions = none) :
    (d.handleKey sub code 0).2 =
      match alookup code d.noteTr with
      | none => []
      | some (n, ch) => releaseOuts cfg.mode (decide (d.count ch n = 1)) ch n := by
  rw [handleKey_split hd]
  exact C02_release_pinned hd sub code hna

theorem C02_all_actions_silent {cfg : Config} {d : Dev} (hd : KInv cfg d) (sub : Sub) (code : Code) (a : Action)
    (ha : alookup code cfg.actions = some a) (hs : isStateAction a = true) (val : Int) :
    ∀ o ∈ (d.handleKey sub code val).2, isMidi o = false := by
  rw [handleKey_split hd]
  exact C02_actions_silent hd sub code a ha hs val

theorem C02_all_key_keeps_axes {cfg : Config} {d : Dev} (hd : KInv cfg d) (sub : Sub) (code : Code) (val : Int) :
    (d.handleKey sub code val).1.anaTr = d.anaTr := by
  rw [handleKey_split hd]; rfl

end Hidi.Props.C02
