/-
  C07 — bidirectional controller: one side at a time, the side left behind is explicitly zeroed;
  while CC learning is held, deflections up to half travel transmit nothing.

  Model: `Dev.bidirCC` / `Dev.absCC` / `Dev.handleAbs` (`Hidi/Engine.lean`).  The receiver is
  `Spec.recvCC` folded over the emitted messages, read with `Spec.ccOf` (last value per
  (channel, controller), 0 when never set).
-/
import HidiProofs.AxisKeyLemmas
namespace Hidi.Props.C07
open Hidi Hidi.Spec Hidi.AxisKeyLemmas

/-- what the device believes (`ccZeroed`) is true at the receiver, and at most one side is non-zero -/
def SideInv (a : Analog) (chP chN : Nat) (d : Dev) (R : List ((Nat × Nat) × Nat)) : Prop :=
  (a.cc ∈ d.ccZeroed → ccOf R (chP, a.cc) = 0) ∧ (a.ccNeg ∈ d.ccZeroed → ccOf R (chN, a.ccNeg) = 0) ∧
  (ccOf R (chP, a.cc) = 0 ∨ ccOf R (chN, a.ccNeg) = 0)

theorem setZeroed_channel (d : Dev) (c : Nat) (b : Bool) : (d.setZeroed c b).channel = d.channel := rfl
theorem setZeroed_true (d : Dev) (c : Nat) : (d.setZeroed c true).ccZeroed = sinsert c d.ccZeroed := rfl
theorem setZeroed_false (d : Dev) (c : Nat) : (d.setZeroed c false).ccZeroed = serase c d.ccZeroed := rfl

theorem bidirCC_channel (d : Dev) (a : Analog) (neg : Bool) (adj : Rat) :
    (d.bidirCC a neg adj).1.channel = d.channel := by rw [bidirCC_writes]

theorem C07_init (a : Analog) (chP chN : Nat) (cfg : Config) : SideInv a chP chN (Dev.init cfg) [] := by
  refine ⟨?_, ?_, Or.inl rfl⟩ <;> intro h <;> simp [Dev.init] at h

/-- after an event on one side, that side's controller is marked not-zeroed (so the next event on the other side
    sends the explicit 0) -/
theorem marks (a : Analog) (d : Dev) (neg : Bool) (adj : Rat) :
    (near a d.channel neg).2 ∉ (d.bidirCC a neg adj).1.ccZeroed := by
  rw [bidirCC_eq]
  split <;> exact fun hm => (mem_serase.mp hm).2 rfl

/-- one event, whichever the side: afterwards the side deflected to is marked not-zeroed and carries the value, the
    other side is 0 at the receiver — provided the device's belief about the other side was right -/
theorem bidirCC_recv (a : Analog) (d : Dev) (R : List ((Nat × Nat) × Nat)) (neg : Bool) (adj : Rat)
    (hd : a.cc ≠ a.ccNeg)
    (hfar : (near a d.channel (!neg)).2 ∈ d.ccZeroed → ccOf R (near a d.channel (!neg)) = 0) :
    (near a d.channel neg).2 ∉ (d.bidirCC a neg adj).1.ccZeroed ∧
    ccOf ((d.bidirCC a neg adj).2.foldl recvCC R) (near a d.channel (!neg)) = 0 ∧
    ccOf ((d.bidirCC a neg adj).2.foldl recvCC R) (near a d.channel neg) = ccByte adj := by
  have kne : near a d.channel (!neg) ≠ near a d.channel neg := by
    cases neg <;> intro h <;> simp only [near, Bool.not_true, Bool.not_false, if_true, Bool.false_eq_true, if_false,
      Prod.mk.injEq] at h
    · exact hd h.2.symm
    · exact hd h.2
  refine ⟨marks a d neg adj, ?_⟩
  rw [bidirCC_eq]
  by_cases hz : (near a d.channel (!neg)).2 ∈ d.ccZeroed
  · simp only [if_pos hz, List.foldl_cons, List.foldl_nil, recvCC_ccEvent (near_lt _ _ _)]
    exact ⟨by rw [ccOf_ainsert_ne R kne]; exact hfar hz, ccOf_ainsert_self _ _ _⟩
  · simp only [if_neg hz, List.foldl_cons, List.foldl_nil, recvCC_ccEvent (near_lt _ _ _)]
    exact ⟨ccOf_ainsert_self _ _ _, by rw [ccOf_ainsert_ne _ kne.symm, ccOf_ainsert_self]⟩

/-- general form of the step: the channels only need to be what `bidirCC` computes; none of the range
    assumptions is needed (a channel computed by `chanOf` is always below 16) -/
theorem step_core (a : Analog) (d : Dev) (R : List ((Nat × Nat) × Nat)) (neg : Bool) (adj : Rat)
    (hd : a.cc ≠ a.ccNeg)
    (hinv : SideInv a (chanOf d.channel a.chOff) (chanOf d.channel a.chOffNeg) d R) :
    SideInv a (chanOf d.channel a.chOff) (chanOf d.channel a.chOffNeg) (d.bidirCC a neg adj).1
      ((d.bidirCC a neg adj).2.foldl recvCC R) ∧
    (if neg then ccOf ((d.bidirCC a neg adj).2.foldl recvCC R) (chanOf d.channel a.chOff, a.cc) = 0
     else ccOf ((d.bidirCC a neg adj).2.foldl recvCC R) (chanOf d.channel a.chOffNeg, a.ccNeg) = 0) ∧
    ccOf ((d.bidirCC a neg adj).2.foldl recvCC R)
      (if neg then (chanOf d.channel a.chOffNeg, a.ccNeg) else (chanOf d.channel a.chOff, a.cc)) = ccByte adj := by
  cases neg
  · obtain ⟨h1, h2, h3⟩ := bidirCC_recv a d R false adj hd hinv.2.1
    exact ⟨⟨fun hm => absurd hm h1, fun _ => h2, Or.inr h2⟩, h2, h3⟩
  · obtain ⟨h1, h2, h3⟩ := bidirCC_recv a d R true adj hd hinv.1
    exact ⟨⟨fun _ => h2, fun hm => absurd hm h1, Or.inl h2⟩, h2, h3⟩

/-- one transmitted event keeps the invariant, and afterwards the side NOT deflected to is 0 at the receiver -/
theorem C07_step (a : Analog) (d : Dev) (R : List ((Nat × Nat) × Nat)) (neg : Bool) (adj : Rat)
    (hd : a.cc ≠ a.ccNeg) (_hch : d.channel < 16) (_hoP : a.chOff ≤ 15) (_hoN : a.chOffNeg ≤ 15)
    (_hcP : a.cc ≤ 119) (_hcN : a.ccNeg ≤ 119)
    (hinv : SideInv a (chanOf d.channel a.chOff) (chanOf d.channel a.chOffNeg) d R) :
    let r := d.bidirCC a neg adj
    SideInv a (chanOf d.channel a.chOff) (chanOf d.channel a.chOffNeg) r.1 (r.2.foldl recvCC R) ∧
    (if neg then ccOf (r.2.foldl recvCC R) (chanOf d.channel a.chOff, a.cc) = 0
     else ccOf (r.2.foldl recvCC R) (chanOf d.channel a.chOffNeg, a.ccNeg) = 0) ∧
    r.1.channel = d.channel := by
  intro r
  have h := step_core a d R neg adj hd hinv
  exact ⟨h.1, h.2.1, bidirCC_channel d a neg adj⟩

/-- the transmitted value goes to the side deflected to -/
theorem C07_side_value (a : Analog) (d : Dev) (R : List ((Nat × Nat) × Nat)) (neg : Bool) (adj : Rat)
    (hd : a.cc ≠ a.ccNeg) (_hch : d.channel < 16) (_hoP : a.chOff ≤ 15) (_hoN : a.chOffNeg ≤ 15)
    (_hcP : a.cc ≤ 119) (_hcN : a.ccNeg ≤ 119)
    (hinv : SideInv a (chanOf d.channel a.chOff) (chanOf d.channel a.chOffNeg) d R) :
    ccOf ((d.bidirCC a neg adj).2.foldl recvCC R)
      (if neg then (chanOf d.channel a.chOffNeg, a.ccNeg) else (chanOf d.channel a.chOff, a.cc)) = ccByte adj :=
  (step_core a d R neg adj hd hinv).2.2

theorem far_zero_mem (a : Analog) (d : Dev) (neg : Bool) (adj : Rat)
    (h : (near a d.channel (!neg)).2 ∉ d.ccZeroed) :
    ccMsg (near a d.channel (!neg)).1 (near a d.channel (!neg)).2 0 ∈ (d.bidirCC a neg adj).2 := by
  rw [bidirCC_eq, if_neg h, ← ccEvent_eq (near_lt _ _ _)]
  simp

/-- crossing: if the controller being left is not marked zeroed (in particular: if the previous transmitted event
    was on the other side, see `bidirCC_recv` and `C07_crossing`), an explicit 0 for it is part of the output -/
theorem C07_explicit_zero (a : Analog) (d : Dev) (neg : Bool) (adj : Rat)
    (_hd : a.cc ≠ a.ccNeg) (_hch : d.channel < 16) (_hoP : a.chOff ≤ 15) (_hoN : a.chOffNeg ≤ 15)
    (_hcP : a.cc ≤ 119) (_hcN : a.ccNeg ≤ 119)
    (h : (if neg then a.cc else a.ccNeg) ∉ d.ccZeroed) :
    (if neg then ccMsg (chanOf d.channel a.chOff) a.cc 0 else ccMsg (chanOf d.channel a.chOffNeg) a.ccNeg 0)
      ∈ (d.bidirCC a neg adj).2 := by
  cases neg <;> exact far_zero_mem a d _ adj h

/-- the two-event reading of "crossing": an event on one side followed by an event on the other side
    (whatever the values) contains the explicit 0 for the side that was left -/
theorem C07_crossing (a : Analog) (d : Dev) (neg : Bool) (adj adj' : Rat) :
    (if neg then ccMsg (chanOf d.channel a.chOff) a.cc 0 else ccMsg (chanOf d.channel a.chOffNeg) a.ccNeg 0)
      ∈ ((d.bidirCC a (!neg) adj).1.bidirCC a neg adj').2 := by
  have hx := far_zero_mem a (d.bidirCC a (!neg) adj).1 neg adj'
  rw [bidirCC_channel] at hx
  cases neg <;> exact hx (marks a d _ adj)

/-- one step of the run of `C07_sequence`: what the device emits is fed to the receiver -/
def seqStep (a : Analog) (s : Dev × List ((Nat × Nat) × Nat)) (e : Bool × Rat) : Dev × List ((Nat × Nat) × Nat) :=
  let r := s.1.bidirCC a e.1 e.2; (r.1, r.2.foldl recvCC s.2)

theorem seq_inv (a : Analog) (hd : a.cc ≠ a.ccNeg) (ch0 : Nat) (evs : List (Bool × Rat))
    (s : Dev × List ((Nat × Nat) × Nat)) (hc : s.1.channel = ch0)
    (hinv : SideInv a (chanOf ch0 a.chOff) (chanOf ch0 a.chOffNeg) s.1 s.2) :
    (evs.foldl (seqStep a) s).1.channel = ch0 ∧
    SideInv a (chanOf ch0 a.chOff) (chanOf ch0 a.chOffNeg) (evs.foldl (seqStep a) s).1 (evs.foldl (seqStep a) s).2 := by
  induction evs generalizing s with
  | nil => exact ⟨hc, hinv⟩
  | cons e es ih =>
    rw [List.foldl_cons]
    subst hc
    apply ih
    · exact bidirCC_channel s.1 a e.1 e.2
    · exact (step_core a s.1 s.2 e.1 e.2 hd hinv).1

/-- any sequence of transmitted events (sides and values arbitrary) keeps "at most one side non-zero" -/
theorem C07_sequence (a : Analog) (cfg : Config)
    (hd : a.cc ≠ a.ccNeg) (_hch : (Dev.init cfg).channel < 16) (_hoP : a.chOff ≤ 15) (_hoN : a.chOffNeg ≤ 15)
    (_hcP : a.cc ≤ 119) (_hcN : a.ccNeg ≤ 119) (evs : List (Bool × Rat)) :
    let fin := evs.foldl (fun (s : Dev × List ((Nat × Nat) × Nat)) e =>
      let r := s.1.bidirCC a e.1 e.2; (r.1, r.2.foldl recvCC s.2)) (Dev.init cfg, [])
    ccOf fin.2 (chanOf (Dev.init cfg).channel a.chOff, a.cc) = 0 ∨
    ccOf fin.2 (chanOf (Dev.init cfg).channel a.chOffNeg, a.ccNeg) = 0 := by
  intro fin
  exact (seq_inv a hd (Dev.init cfg).channel evs (Dev.init cfg, []) rfl (C07_init a _ _ cfg)).2.2.2

/-- the same from any state in which the invariant holds (not only the initial one) -/
theorem C07_sequence_from (a : Analog) (d : Dev) (R : List ((Nat × Nat) × Nat)) (hd : a.cc ≠ a.ccNeg)
    (hinv : SideInv a (chanOf d.channel a.chOff) (chanOf d.channel a.chOffNeg) d R) (evs : List (Bool × Rat)) :
    let fin := evs.foldl (fun (s : Dev × List ((Nat × Nat) × Nat)) e =>
      let r := s.1.bidirCC a e.1 e.2; (r.1, r.2.foldl recvCC s.2)) (d, R)
    ccOf fin.2 (chanOf d.channel a.chOff, a.cc) = 0 ∨ ccOf fin.2 (chanOf d.channel a.chOffNeg, a.ccNeg) = 0 := by
  intro fin
  exact (seq_inv a hd d.channel evs (d, R) rfl hinv).2.2.2

/-- CC-learning gate: while learning is held, `Dev.handleAbs` transmits nothing for a new position `v` with
    `|v| ≤ 1/2` (the shaped, flipped value as the device computes it) — whatever the kind of the axis entry.
    The only output is the release of what the key emulation of this axis still held (entries that are not `key`). -/
theorem C07_learning_gate (d : Dev) (sub : Sub) (node : String) (code : Code) (raw : Int)
    (m : Mapping) (a : Analog) (dz : Rat)
    (hm : d.curMap = some m) (ha : alookup (sub, code) m.analog = some a)
    (hdz : m.deadzone sub code = some dz) (hl : d.learning = true)
    (hnew : (alookup (sub, code) d.lastAna).getD 0 ≠
      shapeRaw ((alookup (node, code) d.cfg.axes).getD (0, 0)).1 ((alookup (node, code) d.cfg.axes).getD (0, 0)).2
        a.dzCenter dz raw)
    (hv : ¬ (flipVal (decide (((alookup (node, code) d.cfg.axes).getD (0, 0)).1 < 0) || a.dzCenter) a.flip
              (shapeRaw ((alookup (node, code) d.cfg.axes).getD (0, 0)).1 ((alookup (node, code) d.cfg.axes).getD (0, 0)).2
                a.dzCenter dz raw) < -1/2 ∨
            1/2 < flipVal (decide (((alookup (node, code) d.cfg.axes).getD (0, 0)).1 < 0) || a.dzCenter) a.flip
              (shapeRaw ((alookup (node, code) d.cfg.axes).getD (0, 0)).1 ((alookup (node, code) d.cfg.axes).getD (0, 0)).2
                a.dzCenter dz raw))) :
    (d.handleAbs sub node code raw).2 = (if a.kind = .key then [] else (d.releaseAxis code).2) := by
  rw [BodiesTie.handleAbs_model d m a sub node code raw hm ha]
  -- the release before the gate writes the analog tracker only: the gate sees `lastAna`, `learning`, `cfg` of `d`
  by_cases hk : a.kind = .key <;>
    simp only [hk, if_true, if_false, releaseAxis_eq, BodiesTie.tailA, BodiesTie.tailW, hdz, if_neg hnew, hl, true_and, if_pos hv,
      List.append_nil]

/-- consequently the gated event contains no controller or pitch-bend message at all: every message in it is the
    Note Off of a note the key emulation of this axis still held -/
theorem C07_learning_gate_only_releases (d : Dev) (sub : Sub) (node : String) (code : Code) (raw : Int)
    (m : Mapping) (a : Analog) (dz : Rat)
    (hm : d.curMap = some m) (ha : alookup (sub, code) m.analog = some a)
    (hdz : m.deadzone sub code = some dz) (hl : d.learning = true)
    (hnew : (alookup (sub, code) d.lastAna).getD 0 ≠
      shapeRaw ((alookup (node, code) d.cfg.axes).getD (0, 0)).1 ((alookup (node, code) d.cfg.axes).getD (0, 0)).2
        a.dzCenter dz raw)
    (hv : ¬ (flipVal (decide (((alookup (node, code) d.cfg.axes).getD (0, 0)).1 < 0) || a.dzCenter) a.flip
              (shapeRaw ((alookup (node, code) d.cfg.axes).getD (0, 0)).1 ((alookup (node, code) d.cfg.axes).getD (0, 0)).2
                a.dzCenter dz raw) < -1/2 ∨
            1/2 < flipVal (decide (((alookup (node, code) d.cfg.axes).getD (0, 0)).1 < 0) || a.dzCenter) a.flip
              (shapeRaw ((alookup (node, code) d.cfg.axes).getD (0, 0)).1 ((alookup (node, code) d.cfg.axes).getD (0, 0)).2
                a.dzCenter dz raw))) :
    ∀ o ∈ (d.handleAbs sub node code raw).2, ∃ id ∈ [((code, false) : Code × Bool), (code, true)], ∃ n ch,
      alookup id d.anaTr = some (n, ch) ∧ o = noteEvent stNoteOff ch n 0 := by
  intro o ho
  rw [C07_learning_gate d sub node code raw m a dz hm ha hdz hl hnew hv] at ho
  split at ho
  · simp at ho
  · exact releaseAxis_out_mem d code o ho

/-- and with nothing held by the key emulation of this axis the gated event is empty -/
theorem C07_learning_gate_silent (d : Dev) (sub : Sub) (node : String) (code : Code) (raw : Int)
    (m : Mapping) (a : Analog) (dz : Rat)
    (hm : d.curMap = some m) (ha : alookup (sub, code) m.analog = some a)
    (hdz : m.deadzone sub code = some dz) (hl : d.learning = true)
    (hnew : (alookup (sub, code) d.lastAna).getD 0 ≠
      shapeRaw ((alookup (node, code) d.cfg.axes).getD (0, 0)).1 ((alookup (node, code) d.cfg.axes).getD (0, 0)).2
        a.dzCenter dz raw)
    (hv : ¬ (flipVal (decide (((alookup (node, code) d.cfg.axes).getD (0, 0)).1 < 0) || a.dzCenter) a.flip
              (shapeRaw ((alookup (node, code) d.cfg.axes).getD (0, 0)).1 ((alookup (node, code) d.cfg.axes).getD (0, 0)).2
                a.dzCenter dz raw) < -1/2 ∨
            1/2 < flipVal (decide (((alookup (node, code) d.cfg.axes).getD (0, 0)).1 < 0) || a.dzCenter) a.flip
              (shapeRaw ((alookup (node, code) d.cfg.axes).getD (0, 0)).1 ((alookup (node, code) d.cfg.axes).getD (0, 0)).2
                a.dzCenter dz raw)))
    (hp : alookup (code, false) d.anaTr = none) (hq : alookup (code, true) d.anaTr = none) :
    (d.handleAbs sub node code raw).2 = [] := by
  rw [C07_learning_gate d sub node code raw m a dz hm ha hdz hl hnew hv]
  split
  · rfl
  · rw [releaseAxis_eq, hp, hq]; rfl

/-- for a bidirectional entry `absCC` is `bidirCC`: the side is "below rest" (0 for an axis that can go negative,
    1/2 otherwise) and the value is the distance from rest -/
theorem absCC_bidir (d : Dev) (a : Analog) (canNeg : Bool) (v : Rat) (hb : a.bidir = true) :
    d.absCC a canNeg v =
      d.bidirCC a (if canNeg then decide (v < 0) else decide (v < 1/2))
        (if canNeg then rabs v else rabs (fsub (fmul v 2) 1)) := by
  rw [absCC_eq, if_pos hb]; cases canNeg <;> rfl

/-! ### non-vacuity -/

private def cfg0 : Config :=
  { maps := [], actions := [], exitSeq := [], mode := .off, defOct := 0, defSemi := 0, defCh := 1,
    defMap := 0, vel := 64, axes := [] }
private def a0 : Analog :=
  { kind := .cc, cc := 1, ccNeg := 2, note := 0, noteNeg := 0, chOff := 0, chOffNeg := 3,
    act := .none, actNeg := .none, flip := false, bidir := true, dzCenter := false }

/-- full positive deflection, then half negative deflection: the second event carries the value for the negative
    controller and the explicit 0 for the positive one (evaluated in the kernel, no `native_decide`) -/
example :
    ((Dev.init cfg0).bidirCC a0 false 1).2 = [ccMsg 0 1 127, ccMsg 3 2 0] ∧
    (((Dev.init cfg0).bidirCC a0 false 1).1.bidirCC a0 true (1/2)).2 = [ccMsg 3 2 63, ccMsg 0 1 0] ∧
    (((Dev.init cfg0).bidirCC a0 false 1).1.bidirCC a0 true (1/2)).1.ccZeroed = [1] := by
  decide +kernel

end Hidi.Props.C07
