/-
  C03 on states of histories of every event kind (see `Props/C02mixed.lean` for the transfer argument): the collision
  rules of a press and of a release, stated with the number of holders, hold whatever the axes are doing; the counter
  equals the number of holders after every admissible mixed history (`C01_mixed_counter`).
-/
import HidiProofs.KInvReach
import HidiProofs.Props.C03
import HidiProofs.Props.C01
namespace Hidi.Props.C03
open Hidi Hidi.Spec Hidi.EngineSim Hidi.AnaIndep Hidi.KInvReach

theorem C03_all_press {cfg : Config} {d : Dev} (hd : KInv cfg d)
    (hcnt : ∀ ch n, d.count ch n = (holders d.noteTr (n, ch) : Int))
    (sub : Sub) (code : Code) (hna : alookup code cfg.actions = none) (hsw : (kt d code 1).exitComplete = false) :
    (d.handleKey sub code 1).2 =
      match resolve cfg (StObs.ofDev d) (u8 cfg.vel) sub code with
      | none => []
      | some (n, ch, v) => pressSpec cfg.mode (holders d.noteTr (n, ch)) ch n v := by
  rw [handleKey_split hd]
  exact C03_press hd hcnt sub code hna hsw

theorem C03_all_release {cfg : Config} {d : Dev} (hd : KInv cfg d)
    (hcnt : ∀ ch n, d.count ch n = (holders d.noteTr (n, ch) : Int))
    (sub : Sub) (code : Code) (hna : alookup code cfg.actions = none) :
    (d.handleKey sub code 0).2 =
      match alookup code d.noteTr with
      | none => []
      | some (n, ch) => releaseSpec cfg.mode (holders d.noteTr (n, ch)) ch n := by
  rw [handleKey_split hd]
  exact C03_release hd hcnt sub code hna

theorem C03_all_last_release_only {cfg : Config} {d : Dev} (hd : KInv cfg d)
    (hcnt : ∀ ch n, d.count ch n = (holders d.noteTr (n, ch) : Int))
    (sub : Sub) (code : Code) (hna : alookup code cfg.actions = none) (hm : cfg.mode ≠ .off)
    {n ch : Nat} (hl : alookup code d.noteTr = some (n, ch)) :
    (d.handleKey sub code 0).2 = if holders d.noteTr (n, ch) = 1 then [noteOffMsg ch n] else [] := by
  rw [handleKey_split hd]
  exact C03_last_release_only hd hcnt sub code hna hm hl

/-- **on every admissible history of any event kinds**: the state it ends in (the one the next key event meets), if the
    device has not crashed, satisfies both hypotheses of the three theorems above -/
theorem C03_all_history (cfg : Config) (hacc : Accepted cfg = true) (evs : List Ev)
    (hok : Hidi.Mixed.OKHistory (Dev.init cfg) evs) (hdead : ((Dev.init cfg).run evs).1.dead = false) :
    let d := ((Dev.init cfg).run evs).1
    KInv cfg d ∧ ∀ ch n, d.count ch n = (holders d.noteTr (n, ch) : Int) := by
  intro d
  refine ⟨reachable_kinv cfg hacc evs hdead, ?_⟩
  intro ch n
  exact Hidi.Props.C01.C01_mixed_counter cfg evs hacc hok ch n

end Hidi.Props.C03
