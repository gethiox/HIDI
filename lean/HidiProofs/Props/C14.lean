/-
  C14 — The exit sequence fires exactly when all its keys are down, and swallows that press.

  * `C14_signal_iff`        : a key event raises the signal iff it is a press after which every key of the
                              (non-empty) exit sequence is in the key tracker;
  * `C14_completing_press`  : that press emits the signal and nothing else, and changes nothing but the key tracker —
                              no note, no action of its own, although the key may also be a note or action key;
  * `C14_tracker_is_keys_down` : the key tracker is exactly the set of keys whose last event was a press (so
                              "in the tracker" means "held now", pressed in any order);
  * `C14_never_when_empty`  : with an empty sequence no event ever raises the signal;
  * `C14_monitor`           : the monitor evaluated on the implementation never fires on the model.

  Not modelled: the send on the signal channel blocks when that channel is full (capacity 1 in `main.go`).
-/
import HidiProofs.KeyHistories
namespace Hidi.Props.C14
open Hidi Hidi.Spec Hidi.EngineSim Hidi.KeyHist

theorem C14_monitor (cfg : Config) (evs : List Ev) (disc : Bool)
    (hacc : Accepted cfg = true) (hk : evs.all keyOnly = true) :
    failsOf "C14" (checkAll (modelTrace cfg evs disc)) = [] :=
  no_fails "C14" cfg evs disc hacc hk

theorem sig_not_mem_of_okOut {o : List Out} (h : o.all okOut = true) : Out.sig ∉ o := by
  intro hm
  have := List.all_eq_true.mp h _ hm
  simp [okOut, isMidi] at this

/-- **the signal is raised exactly on a press that completes the sequence** -/
theorem C14_signal_iff {cfg : Config} {d : Dev} (hd : DInv cfg d) (sub : Sub) (code : Code) (val : Int) :
    Out.sig ∈ (d.handleKey sub code val).2 ↔ (val = 1 ∧ (kt d code val).exitComplete = true) := by
  obtain ⟨-, -, h⟩ := handleKey_model hd sub code val
  split at h
  · rw [h]; exact ⟨fun _ => ‹_›, fun _ => List.mem_singleton.mpr rfl⟩
  · exact ⟨fun hm => absurd hm (midi_no_sig h.1), fun hs => absurd hs ‹_›⟩

/-- **the completing press is swallowed**: signal only; nothing but the key tracker changes -/
theorem C14_completing_press {cfg : Config} {d : Dev} (hd : DInv cfg d) (sub : Sub) (code : Code)
    (h : (kt d code 1).exitComplete = true) :
    d.handleKey sub code 1 = ({ d with keyTr := sinsert code d.keyTr }, [.sig]) :=
  handleKey_sw hd sub code h

/-- what "complete" means: the sequence is non-empty and each of its keys is in the tracker after this press -/
theorem C14_complete_iff (d : Dev) (code : Code) :
    (kt d code 1).exitComplete = true ↔
      d.cfg.exitSeq ≠ [] ∧ ∀ k ∈ d.cfg.exitSeq, k ∈ d.keyTr ∨ k = code := by
  unfold Dev.exitComplete kt
  simp only [if_true, Bool.and_eq_true, Bool.not_eq_true', List.isEmpty_eq_false_iff, List.all_eq_true,
    decide_eq_true_eq, mem_sinsert]

/-- the key tracker after a history is the set of keys whose last event was a press -/
theorem C14_tracker_is_keys_down {cfg : Config} (hacc : Accepted cfg = true) {evs : List Ev}
    (hk : evs.all keyOnly = true) : ((Dev.init cfg).run evs).1.keyTr = keysDown evs [] := by
  have hinv := final_inv hacc hk
  rw [← modelSteps_final, ← hinv.down, finalBook_down]

/-- **empty sequence: never** -/
theorem C14_never_when_empty {cfg : Config} {d : Dev} (hd : DInv cfg d) (hempty : cfg.exitSeq = [])
    (sub : Sub) (code : Code) (val : Int) : Out.sig ∉ (d.handleKey sub code val).2 := by
  rw [C14_signal_iff hd]
  rintro ⟨rfl, h⟩
  exact ((C14_complete_iff d code).mp h).1 (hd.cfg_eq ▸ hempty)

theorem never_when_empty_from {cfg : Config} (hempty : cfg.exitSeq = []) :
    ∀ (evs : List Ev) {d : Dev}, DInv cfg d → evs.all keyOnly = true → Out.sig ∉ allOuts d evs
  | [], _, _, _ => by simp [allOuts, modelSteps]
  | e :: es, d, hd, hk => by
    simp only [List.all_cons, Bool.and_eq_true] at hk
    simp only [allOuts, modelSteps, List.flatMap_cons, List.mem_append, not_or]
    refine ⟨?_, never_when_empty_from hempty es (step_dinv hd hk.1) hk.2⟩
    exact Handlers.step_cases (P := fun r => Out.sig ∉ r.2) d e (fun _ => List.not_mem_nil) (fun _ => List.not_mem_nil)
      (fun _ _ _ => List.not_mem_nil) (fun s c v _ _ => C14_never_when_empty hd hempty s c v)
      (fun _ _ _ _ he => by subst he; cases hk.1) (fun _ _ _ _ _ => List.not_mem_nil)

/-- with an empty sequence no key-only history ever raises the signal -/
theorem C14_never_when_empty_history {cfg : Config} (hacc : Accepted cfg = true) (hempty : cfg.exitSeq = [])
    (evs : List Ev) (hk : evs.all keyOnly = true) : Out.sig ∉ allOuts (Dev.init cfg) evs :=
  never_when_empty_from hempty evs (inv_init hacc).dinv hk

/-! ### non-vacuity: ESC is panic *and* in the sequence; the completing press does not panic -/

def exCfg : Config :=
  { maps := [{ name := "Piano", midi := [(("", 30), ⟨60, 0⟩)], analog := [], dz := [], defDz := [] }],
    actions := [(1, .panic)], exitSeq := [1, 30], mode := .off, defOct := 0, defSemi := 0, defCh := 1,
    defMap := 0, vel := 64, axes := [] }

example : ((Dev.init exCfg).run [.key "" 30 1, .key "" 1 1, .key "" 1 0, .key "" 30 0]).2 =
    [[noteOnMsg 0 60 64], [.sig], [], [noteOffMsg 0 60]] := by decide
example : ((Dev.init exCfg).run [.key "" 1 1, .key "" 30 1]).2 = [panicMsgs 0, [.sig]] := by decide

end Hidi.Props.C14
