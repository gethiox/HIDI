/-
  C06 — the transfer function of an axis (`shapeRaw`, `flipVal`, `ccByte`, `pitchBendEvent` of
  `Hidi/Engine.lean`): range, monotonicity, exact end stops, rest position inside the deadzone,
  and the same for the controller byte, the signed scaling and the 14-bit pitch-bend value.

  All statements are about the exact binary64 model of `Hidi/Float.lean` (every operation is
  followed by `rnd53`), not about real arithmetic.
-/
import HidiProofs.AxisLemmas
import HidiProofs.AxisKeyLemmas
namespace Hidi.Props.C06
open Hidi Hidi.Spec Hidi.FloatLemmas Hidi.AxisLemmas
open Hidi.AxisKeyLemmas (ccArg)

theorem C06_shape_range {mn mx : Int} {dzc : Bool} {dz : Rat} {raw : Int}
    (h : axisOK mn mx dzc dz raw = true) :
    -1 ≤ shapeRaw mn mx dzc dz raw ∧ shapeRaw mn mx dzc dz raw ≤ 1 := by
  obtain ⟨_, _, _, _, _, h6, h7⟩ := axisOK_iff.mp h
  obtain ⟨d, e⟩ := centred_range h
  rw [shapeRaw_eq]
  exact ⟨dzCut_ge_neg_one h6 h7 d, dzCut_le_one h6 h7 e⟩

/-- an unsigned axis without centring: the shaped value is not negative -/
theorem C06_shape_range_unsigned {mx : Int} {dz : Rat} {raw : Int}
    (h : axisOK 0 mx false dz raw = true) :
    0 ≤ shapeRaw 0 mx false dz raw := by
  obtain ⟨_, _, h3, _, _, h6, h7⟩ := axisOK_iff.mp h
  obtain ⟨_, _, c⟩ := normRaw_range h
  rw [shapeRaw_eq]
  exact dzCut_nonneg h6 h7 (c h3)

theorem C06_shape_mono {mn mx : Int} {dzc : Bool} {dz : Rat} {r1 r2 : Int}
    (h1 : axisOK mn mx dzc dz r1 = true) (h2 : axisOK mn mx dzc dz r2 = true) (h : r1 ≤ r2) :
    shapeRaw mn mx dzc dz r1 ≤ shapeRaw mn mx dzc dz r2 := by
  -- only the deadzone bounds are used: every stage is monotone on all of ℤ resp. ℚ
  obtain ⟨_, _, _, _, _, h6, h7⟩ := axisOK_iff.mp h1
  rw [shapeRaw_eq, shapeRaw_eq]
  exact dzCut_mono h6 h7 (centre_mono (normRaw_mono h))

/-- the physical end stops map exactly to the ends -/
theorem C06_end_stop_max {mn mx : Int} {dzc : Bool} {dz : Rat}
    (h : axisOK mn mx dzc dz mx = true) :
    shapeRaw mn mx dzc dz mx = 1 := by
  obtain ⟨_, hpos, _, _, _, _, h7⟩ := axisOK_iff.mp h
  have hmx0 : (0 : ℚ) < mx := by exact_mod_cast hpos
  have hab : rabs (mx : ℚ) = (mx : ℚ) := by rw [rabs_eq, abs_of_pos hmx0]
  have hn : normRaw mn mx mx = 1 := by
    unfold normRaw
    rw [if_neg (by omega), hab]
    exact fdiv_self hmx0.ne'
  rw [shapeRaw_eq, hn, centre_one]
  exact dzCut_one h7

theorem C06_end_stop_min_signed {mn mx : Int} {dz : Rat} (hmn : mn < 0)
    (h : axisOK mn mx false dz mn = true) :
    shapeRaw mn mx false dz mn = -1 := by
  obtain ⟨_, _, _, _, _, _, h7⟩ := axisOK_iff.mp h
  have hmn0 : (mn : ℚ) < 0 := by exact_mod_cast hmn
  have hab : rabs (mn : ℚ) = -(mn : ℚ) := by rw [rabs_eq, abs_of_neg hmn0]
  have hn : normRaw mn mx mn = -1 := by
    unfold normRaw fdiv
    rw [if_pos hmn, hab, div_neg, div_self hmn0.ne, rnd53_neg_one]
  have hc : centre false (-1) = -1 := rfl
  rw [shapeRaw_eq, hn, hc]
  exact dzCut_neg_one h7

theorem C06_end_stop_min_centred {mx : Int} {dz : Rat} (h : axisOK 0 mx true dz 0 = true) :
    shapeRaw 0 mx true dz 0 = -1 := by
  obtain ⟨_, _, _, _, _, _, h7⟩ := axisOK_iff.mp h
  rw [shapeRaw_eq, normRaw_zero, centre_true_zero]
  exact dzCut_neg_one h7

theorem C06_end_stop_min_unsigned {mx : Int} {dz : Rat} (h : axisOK 0 mx false dz 0 = true) :
    shapeRaw 0 mx false dz 0 = 0 := by
  obtain ⟨_, _, _, _, _, h6, _⟩ := axisOK_iff.mp h
  have hc : centre false 0 = 0 := rfl
  rw [shapeRaw_eq, normRaw_zero, hc]
  exact dzCut_zero h6

/-- positions inside the deadzone give exactly 0 (deadzone a binary64 value, no centring) -/
theorem C06_rest {mn mx : Int} {dz : Rat} {raw : Int} (_h : axisOK mn mx false dz raw = true)
    (hrep : rnd53 dz = dz)
    (hin : rabs ((raw : Rat) / (if raw < 0 then rabs (mn : Rat) else rabs (mx : Rat))) < dz) :
    shapeRaw mn mx false dz raw = 0 := by
  have e : (raw : ℚ) / (if raw < 0 then rabs (mn : ℚ) else rabs (mx : ℚ)) = normI mn mx raw := by
    unfold normI; split <;> rfl
  rw [e, rabs_eq, abs_lt] at hin
  rw [shapeRaw_eq, normRaw_eq]
  exact dzCut_rest hrep hin.1 hin.2

theorem C06_cc_range {a : Rat} (h0 : 0 ≤ a) (h1 : a ≤ 1) : ccByte a ≤ 127 := by
  obtain ⟨l, u⟩ := ftrunc127_range h0 h1
  unfold ccByte u8
  omega

theorem C06_cc_zero : ccByte 0 = 0 := by
  simp [ccByte, fmul, rnd53_zero, ftrunc_zero, u8]

theorem C06_cc_one : ccByte 1 = 127 := by
  simp [ccByte, fmul, rnd53_127, ftrunc_127, u8]

theorem C06_cc_half : ccByte (1/2) = 63 := by
  have hr : rnd53 (127 * (1/2)) = 127/2 := by
    have := rnd53_of_rep' 127 (-1) (by norm_num)
    norm_num at this ⊢; exact this
  have hf : ftrunc (127/2 : ℚ) = 63 := by
    rw [ftrunc_eq, if_neg (by norm_num), Int.floor_eq_iff]; norm_num
  unfold ccByte fmul
  rw [hr, hf]; rfl

theorem C06_cc_mono {a b : Rat} (h0 : 0 ≤ a) (hab : a ≤ b) (h1 : b ≤ 1) : ccByte a ≤ ccByte b := by
  obtain ⟨la, ua⟩ := ftrunc127_range h0 (le_trans hab h1)
  obtain ⟨lb, ub⟩ := ftrunc127_range (le_trans h0 hab) h1
  have hm : ftrunc (fmul 127 a) ≤ ftrunc (fmul 127 b) := by
    apply ftrunc_mono
    unfold fmul
    exact rnd53_mono (by linarith)
  unfold ccByte u8
  omega

theorem C06_signed_scale_ends :
    fdiv (fadd (-1) 1) 2 = 0 ∧ fdiv (fadd 0 1) 2 = 1/2 ∧ fdiv (fadd 1 1) 2 = 1 := by
  refine ⟨?_, ?_, ?_⟩
  · simp [fdiv, fadd, rnd53_zero]
  · simp only [fdiv, fadd, zero_add, rnd53_one, rnd53_half]
  · have : (1:ℚ) + 1 = 2 := by norm_num
    simp only [fdiv, fadd, this, rnd53_two]
    norm_num [rnd53_one]

theorem signed_scale_mono {x y : Rat} (h : x ≤ y) : fdiv (fadd x 1) 2 ≤ fdiv (fadd y 1) 2 := by
  unfold fdiv fadd
  apply rnd53_mono
  have := rnd53_mono (show x + 1 ≤ y + 1 by linarith)
  linarith

theorem C06_signed_scale {v : Rat} (h0 : -1 ≤ v) (h1 : v ≤ 1) :
    0 ≤ fdiv (fadd v 1) 2 ∧ fdiv (fadd v 1) 2 ≤ 1 :=
  ⟨C06_signed_scale_ends.1.symm.trans_le (signed_scale_mono h0), (signed_scale_mono h1).trans_eq C06_signed_scale_ends.2.2⟩

/-- `target` of `pitchBendEvent` (`int(math.Round(16383·((val+1)/2)))` in event.go): the 14-bit value the two data
    bytes carry -/
def pbTarget (x : Rat) : Int := fround (fmul 16383 (fdiv (fadd x 1) 2))

theorem C06_pb_ends : pbTarget (-1) = 0 ∧ pbTarget 0 = 8192 ∧ pbTarget 1 = 16383 := by
  obtain ⟨e1, e2, e3⟩ := C06_signed_scale_ends
  refine ⟨?_, ?_, ?_⟩
  · unfold pbTarget; rw [e1]
    simp [fmul, rnd53_zero, fround_zero]
  · unfold pbTarget; rw [e2]
    have hr : rnd53 (16383 * (1/2)) = 16383/2 := by
      have := rnd53_of_rep' 16383 (-1) (by norm_num)
      norm_num at this ⊢; exact this
    unfold fmul
    rw [hr, fround_eq, if_neg (by norm_num), Int.floor_eq_iff]; norm_num
  · unfold pbTarget; rw [e3]
    unfold fmul
    rw [mul_one, rnd53_16383, fround_16383]

theorem C06_pb_mono {x y : Rat} (h : x ≤ y) : pbTarget x ≤ pbTarget y := by
  unfold pbTarget
  apply fround_mono
  unfold fmul
  apply rnd53_mono
  have := signed_scale_mono h
  linarith

theorem C06_pb_range {x : Rat} (h0 : -1 ≤ x) (h1 : x ≤ 1) : 0 ≤ pbTarget x ∧ pbTarget x ≤ 16383 :=
  ⟨C06_pb_ends.1.symm.trans_le (C06_pb_mono h0), (C06_pb_mono h1).trans_eq C06_pb_ends.2.2⟩

theorem C06_pb_encoding (ch : Nat) (x : Rat) (h0 : -1 ≤ x) (h1 : x ≤ 1) :
    pitchBendEvent ch x =
      .midi ((stPB ||| ch) % 256) ((pbTarget x) % 128).toNat ((pbTarget x) / 128).toNat := by
  obtain ⟨l, u⟩ := C06_pb_range h0 h1
  have : (pbTarget x / 128) % 128 = pbTarget x / 128 := by omega
  show Out.midi _ (pbTarget x % 128).toNat ((pbTarget x / 128) % 128).toNat = _
  rw [this]

theorem C06_flip_range_signed {v : Rat} (h0 : -1 ≤ v) (h1 : v ≤ 1) (flip : Bool) :
    -1 ≤ flipVal true flip v ∧ flipVal true flip v ≤ 1 := by
  cases flip
  · exact ⟨h0, h1⟩
  · simp only [flipVal, if_true]
    constructor <;> linarith

theorem C06_flip_range_unsigned {v : Rat} (h0 : 0 ≤ v) (h1 : v ≤ 1) (flip : Bool) :
    0 ≤ flipVal false flip v ∧ flipVal false flip v ≤ 1 := by
  cases flip
  · exact ⟨h0, h1⟩
  · have e : flipVal false true v = fsub 1 v := rfl
    rw [e]; unfold fsub
    exact ⟨rnd53_nonneg (by linarith), rnd53_le_of_le rnd53_one (by linarith)⟩

theorem C06_flip_antitone {canNeg : Bool} {v w : Rat} (h : v ≤ w) :
    flipVal canNeg true w ≤ flipVal canNeg true v := by
  cases canNeg
  · have e : ∀ x, flipVal false true x = fsub 1 x := fun _ => rfl
    rw [e, e]; unfold fsub
    exact rnd53_mono (by linarith)
  · have e : ∀ x, flipVal true true x = -x := fun _ => rfl
    rw [e, e]; linarith

def vRange (canNeg : Bool) (v : Rat) : Prop := (canNeg = false → 0 ≤ v) ∧ -1 ≤ v ∧ v ≤ 1

theorem recentred_range {canNeg : Bool} {v : Rat} (h : vRange canNeg v) :
    -1 ≤ centre (!canNeg) v ∧ centre (!canNeg) v ≤ 1 :=
  centre_range h.2.1 h.2.2 fun hd => h.1 ((Bool.not_eq_true' _).mp hd)

theorem flipped_range {mn mx : Int} {dzc : Bool} {dz : Rat} {raw : Int} (flip : Bool)
    (h : axisOK mn mx dzc dz raw = true) :
    vRange (decide (mn < 0) || dzc) (flipVal (decide (mn < 0) || dzc) flip (shapeRaw mn mx dzc dz raw)) := by
  obtain ⟨l, u⟩ := C06_shape_range h
  cases hc : (decide (mn < 0) || dzc)
  · simp only [Bool.or_eq_false_iff, decide_eq_false_iff_not] at hc
    obtain rfl : mn = 0 := by have := (axisOK_iff.mp h).1; omega
    obtain rfl := hc.2
    obtain ⟨a, b⟩ := C06_flip_range_unsigned (C06_shape_range_unsigned h) u flip
    exact ⟨fun _ => a, by linarith, b⟩
  · exact ⟨nofun, C06_flip_range_signed l u flip⟩

theorem ccArg_range {bidir canNeg : Bool} {v : Rat} (h : vRange canNeg v) :
    0 ≤ ccArg bidir canNeg v ∧ ccArg bidir canNeg v ≤ 1 := by
  have hc := recentred_range h
  obtain ⟨h0, l, u⟩ := h
  cases canNeg <;> cases bidir <;> simp only [ccArg, if_true, Bool.false_eq_true, if_false]
  · exact ⟨h0 rfl, u⟩
  · exact rabs_le_one hc.1 hc.2
  · exact C06_signed_scale l u
  · exact rabs_le_one l u

/-! ### non-vacuity: the hypotheses are satisfiable -/

example : axisOK (-128) 127 false (1/4) 127 = true := axisOK_iff.mpr (by norm_num)
example : axisOK (-128) 127 false (1/4) (-128) = true := axisOK_iff.mpr (by norm_num)
example : axisOK 0 255 true (1/4) 0 = true := axisOK_iff.mpr (by norm_num)
example : axisOK 0 255 false (1/4) 0 = true := axisOK_iff.mpr (by norm_num)
example : axisOK 0 255 false 0 17 = true := axisOK_iff.mpr (by norm_num)
/-- a decimal deadzone of a configuration file, here 0.05, is read as the nearest binary64 and is admissible -/
example : axisOK (-128) 127 false (rnd53 (1/20)) 127 = true := by
  have a : 0 ≤ rnd53 (1/20) := rnd53_nonneg (by norm_num)
  have b : rnd53 (1/20) ≤ 1/2 := rnd53_le_of_le rnd53_half (by norm_num)
  exact axisOK_iff.mpr ⟨by norm_num, by norm_num, by norm_num, by norm_num, by simp, a, by linarith⟩
/-- a position inside the deadzone 1/4 (a binary64 value) of a signed axis -/
example : rnd53 (1/4) = 1/4 ∧
    rabs (((-20 : Int) : Rat) / (if (-20 : Int) < 0 then rabs ((-128 : Int) : Rat) else rabs ((127 : Int) : Rat))) < 1/4 := by
  constructor
  · have := rnd53_of_rep' 1 (-2) (by norm_num)
    norm_num at this ⊢; exact this
  · rw [rabs_eq]; norm_num [rabs_eq]

end Hidi.Props.C06
