/-
  C17 — LED feedback shows the device's actual state.  Theorems about `Hidi.Led.frame` (checked writes) and the MIDI-input
  tracker `Dev.midiIn`.

  * `C17_frame_total`   : for every state with a current mapping, every configuration and every LED layout (any order,
                          any subset, unknown names, no LEDs at all) the frame is a list of exactly one colour per LED —
                          no index outside the frame is ever written (with unchecked writes, `frame false`, an empty
                          layout is a Go panic: `C17_unchecked_crashes`);
  * `C17_layout`        : an action whose key is unbound, or whose key has no LED, paints nothing; otherwise it paints
                          exactly the LED of its key (`C17_unchecked_hits_led0`: the unchecked write goes to LED 0);
  * `C17_active`        : every LED of a key whose base note + transposition equals the pitch recorded for a held key shows
                          the active colour — whatever else was painted before (last paint wins, and every later paint of
                          that pass is the same colour);
  * `C17_midi_in_*`     : Note Off, or Note On with velocity 0, removes the note from the MIDI-input tracker; Note On with
                          velocity > 0 adds it; the panic action clears the tracker (`C17_panic_clears`);
  * `C17_refinement`    : **every LED of every frame** equals the declarative `LedSpec.highlight`: active colour if a key
                          at a pitch the device is sounding, else the external colour if a MIDI-input note of the current
                          channel is at its pitch, else the colour of the lowest MIDI-input channel with a note at its pitch,
                          else its colour in the base frame (proved by "last write wins" over the list of writes).  The
                          per-LED theorems below are instances of the same description in the form `LedSpec.frame_led`
                          (the colour as a hypothesis), the base colour taken apart by `lastW_baseW`;
  * `C17_pitch_class`   : the base colour of a mapped key's LED is the class colour (C / black / white, or white on the
                          "Control" mapping) of base note + semitone + 12·octave when that is a MIDI note;
  * `C17_unavailable`   : and the 'unavailable' colour when it is not, for a key bound to no action;
  * `C17_action_key`    : the LED of the key an action is bound to (when it is not also a note key) shows the indicator
                          colour of the *current* octave / semitone / mapping / channel (`indicator`) — "last paint of
                          that action wins" over the paint list `Led.actionPaints` (`C17_octave_up_key`: the three cases
                          of one key spelt out);
  * `C17_source_facts`, `C17_action_paints_source`, `C17_pass_order_source`, `C17_led_names_distinct` : what is regenerated
                          from the sources and the model follows: no unchecked frame write, a MIDI-input Note On with
                          velocity 0 counts as Note Off; the indicator paints with their guards, in source order; the order
                          of the painting passes; the LED name table has no name twice.
-/
import HidiProofs.LedSpec
import HidiProofs.MidiInLemmas
import Hidi.Gen.Evdev
namespace Hidi.Props.C17
open Hidi Hidi.Led Hidi.LedSpec

/-- source facts regenerated from open_rgb.go / events.go: every frame write for action keys and strip LEDs goes through the
    checked setter; a MIDI-input Note On with velocity 0 is treated as Note Off -/
theorem C17_source_facts : Gen.ledUncheckedWrites = 0 ∧ Gen.midiInVelocityZeroIsOff = true := by decide

/-- the indicator paints regenerated from the LED loop of `handleOpenrgb` — every `paintAction(action, colour)` call in source
    order with the conditions of its enclosing `if`s — are the rows of the model's `Led.actionPaints` (same order, same
    guards, same colours: `white1/2/3` = 27 / 100 / 255 grey, `chanColor` = `channelColors[d.channel]`, the dimmed colour =
    each component divided by 3, panic = red 0xff) -/
theorem C17_action_paints_source :
    Gen.ledActionPaints =
      [("", "config.Panic", "openrgb.Color{Red: 0xff}"),
       ("", "config.OctaveUp", "white1"),
       ("", "config.OctaveDown", "white1"),
       ("d.octave > 0 && d.octave == 1", "config.OctaveUp", "white2"),
       ("d.octave > 0 && !(d.octave == 1)", "config.OctaveUp", "white3"),
       ("d.octave < 0 && d.octave == -1", "config.OctaveDown", "white2"),
       ("d.octave < 0 && !(d.octave == -1)", "config.OctaveDown", "white3"),
       ("", "config.SemitoneUp", "white1"),
       ("", "config.SemitoneDown", "white1"),
       ("d.semitone > 0 && d.semitone == 1", "config.SemitoneUp", "white2"),
       ("d.semitone > 0 && !(d.semitone == 1)", "config.SemitoneUp", "white3"),
       ("d.semitone < 0 && d.semitone == -1", "config.SemitoneDown", "white2"),
       ("d.semitone < 0 && !(d.semitone == -1)", "config.SemitoneDown", "white3"),
       ("", "config.MappingUp", "white3"),
       ("", "config.MappingDown", "white3"),
       ("d.mapping == 0", "config.MappingDown", "white1"),
       ("d.mapping == len(d.config.KeyMappings)-1", "config.MappingUp", "white1"),
       ("", "config.ChannelUp", "chanColor"),
       ("", "config.ChannelDown", "chanColor"),
       ("d.channel == 0", "config.ChannelDown", "openrgb.Color{ Red: chanColor.Red / 3, Green: chanColor.Green / 3, Blue: chanColor.Blue / 3, }"),
       ("d.channel == 15", "config.ChannelUp", "openrgb.Color{ Red: chanColor.Red / 3, Green: chanColor.Green / 3, Blue: chanColor.Blue / 3, }"),
       ("", "config.Multinote", "white1")] ∧
    Gen.ledLocalColors =
      [("white1", "openrgb.Color{Red: 27, Green: 27, Blue: 27}"), ("white2", "openrgb.Color{Red: 100, Green: 100, Blue: 100}"),
       ("white3", "openrgb.Color{Red: 255, Green: 255, Blue: 255}"), ("chanColor", "channelColors[d.channel]")] ∧
    white1 = ⟨27, 27, 27⟩ ∧ white2 = ⟨100, 100, 100⟩ ∧ white3 = ⟨255, 255, 255⟩ ∧ red = ⟨255, 0, 0⟩ :=
  ⟨rfl, rfl, rfl, rfl, rfl, rfl⟩

/-- the painting passes of the refresh loop in source order — everything 'unavailable', the keyboard mapping in class
    colours, MIDI-input notes of the channels 15 down to 0 in their channel colours, then the current channel in the
    external colour, then the device's own notes in the active colour — which is the order of `Led.frame`
    (`frameStrip`/`framePre`, `frameBase`, `frameExt`, the final fold) and what "last write wins" in `C17_refinement` rests on -/
theorem C17_pass_order_source :
    Gen.ledPasses =
      [("for i := 0; i < len(ledArray); i++", ["d.config.OpenRGB.Colors.Unavailable"]),
       ("for code, key := range d.config.KeyMappings[d.mapping].Midi[\"\"]", ["color"]),
       ("for ch := 15; ch >= 0; ch--", ["channelColors[byte(ch)]"]),
       ("for note, _ := range d.externalNoteTracker[d.channel]", ["d.config.OpenRGB.Colors.ActiveExternal"]),
       ("for _, noteAndChannel := range d.noteTracker", ["d.config.OpenRGB.Colors.Active"])] :=
  rfl

theorem nodup_of_map {α β} (f : α → β) {l : List α} (h : (l.map f).Nodup) : l.Nodup :=
  List.Pairwise.of_map f (fun _ _ hne e => hne (congrArg f e)) h

/-- LED names are distinct, so `LedNameToKey` (built by ranging over a Go map) is well defined -/
theorem C17_led_names_distinct : (Gen.keyToLedName.map (·.2)).Nodup :=
  -- The names are compared through their UTF-8 bytes read as base-256 numerals: comparing strings is slow, above all in
  -- the elaborator's evaluator, which is why this and the other evaluations of the LED name table are left to the kernel.
  nodup_of_map (fun s => s.toByteArray.data.toList.foldl (fun n b => 256 * n + b.toNat) 1) (by decide +kernel)

/-- **any layout**: with a current mapping (`hm`; without one `frame` is `.panic`) the frame has exactly one colour per
    LED; nothing outside it is written -/
theorem C17_frame_total (d : Dev) (devName : String) (leds : List String) (shifted : RGB × RGB × RGB)
    (hm : d.curMap.isSome = true) :
    ∃ l, frame true d devName leds shifted = .ok l ∧ l.length = leds.length := by
  obtain ⟨m, hc⟩ := Option.isSome_iff_exists.mp hm
  exact ⟨_, frame_eq d devName leds shifted m hc, by simp⟩

def exMap : Mapping := { name := "Piano", midi := [], analog := [], dz := [], defDz := [] }
def exCfg0 : Config :=
  { maps := [exMap], actions := [], exitSeq := [], mode := .off, defOct := 0, defSemi := 0, defCh := 1, defMap := 0,
    vel := 64, axes := [] }

/-- unchecked writes on a controller without LEDs: a Go panic (index out of range) -/
theorem C17_unchecked_crashes : frame false (Dev.init exCfg0) "kbd" [] ({}, {}, {}) = .panic := by decide

/-- **layout**: with checked writes an action paints at most the LED of its own key -/
theorem C17_layout (cfg : Config) (im : List (Nat × Nat)) (l : List RGB) (a : Action) (c : RGB) :
    paintAction true cfg im (.ok l) a c =
      match actionCode cfg a with
      | none => .ok l                                   -- the action is not bound to any key
      | some code =>
        match alookup code im with
        | none => .ok l                                 -- its key has no LED
        | some i => if i < l.length then .ok (l.set i c) else .ok l := by
  unfold paintAction
  simp only [if_true]
  cases actionCode cfg a with
  | none => rfl
  | some code => simp only; cases alookup code im <;> rfl

/-- an unchecked write for an unbound action goes to LED 0 -/
theorem C17_unchecked_hits_led0 (cfg : Config) (im : List (Nat × Nat)) (l : List RGB) (a : Action) (c : RGB)
    (hunbound : actionCode cfg a = none) (h0 : alookup 0 im = none) (hl : 0 < l.length) :
    paintAction false cfg im (.ok l) a c = .ok (l.set 0 c) := by
  unfold paintAction
  simp [hunbound, h0, setAt, hl]

/-- **active**: every LED of a key whose transposed pitch (`k + offset`, in the integers) is the pitch of a note the device
    has sounding shows the active colour -/
theorem C17_active (d : Dev) (devName : String) (leds : List String) (shifted : RGB × RGB × RGB) (m : Mapping)
    (hm : d.curMap = some m) (held : Code × (Nat × Nat)) (hheld : held ∈ d.noteTr)
    (code k : Nat) (hcode : code ∈ keysWithNote m k) (hk127 : k ≤ 127)
    (hk : (k : Int) + (d.semitone + d.octave * 12) = (held.2.1 : Int))
    (i : Nat) (hi : alookup code (indexMap leds) = some i) :
    ∃ l, frame true d devName leds shifted = .ok l ∧ l[i]? = some d.cfg.colors.active := by
  have hb : baseI held.2.1 (d.semitone + d.octave * 12) = (k : Int) := by unfold baseI; omega
  have hok : baseOk held.2.1 (d.semitone + d.octave * 12) = true := by
    unfold baseOk; rw [hb]; simp; omega
  have hof : baseOf held.2.1 (d.semitone + d.octave * 12) = k := by unfold baseOf; rw [hb]; simp
  refine frame_led d devName leds shifted m hm (indexMap_lt leds code i hi) ?_
  rw [highlight]
  exact if_pos (lit_of_mem (p := held) (List.mem_filter.mpr ⟨hheld, hok⟩) (hof ▸ hcode) hi)

/-- **refinement**: every LED of the frame shows `highlight` of its base colour — for every state, layout and mapping -/
theorem C17_refinement (d : Dev) (devName : String) (leds : List String) (shifted : RGB × RGB × RGB) (m : Mapping)
    (hm : d.curMap = some m) :
    ∃ base l, frameBase true d devName leds shifted m = .ok base ∧ frame true d devName leds shifted = .ok l ∧
      base.length = leds.length ∧ l.length = leds.length ∧
      ∀ i (hi : i < base.length), l[i]? = some (highlight d leds m base[i] i) := by
  refine ⟨_, _, frameBase_eq .., frame_eq d devName leds shifted m hm, by simp, by simp, fun i hi => ?_⟩
  rw [applyW_append, applyW_get _ _ i hi, lastW_hiW]

/-- nothing is highlighted on LED `i` -/
def Unlit (d : Dev) (leds : List String) (m : Mapping) (i : Nat) : Prop :=
  lit (indexMap leds) m (fun (p : Code × (Nat × Nat)) => baseOf p.2.1 (d.semitone + d.octave * 12)) (ownOn d (d.semitone + d.octave * 12)) i = false ∧
  ∀ ch, lit (indexMap leds) m (fun (p : Nat × Nat) => baseOf p.2 (d.semitone + d.octave * 12))
    (extOn d ch (d.semitone + d.octave * 12)) i = false

theorem highlight_unlit (d : Dev) (leds : List String) (m : Mapping) (base : RGB) (i : Nat) (h : Unlit d leds m i) :
    highlight d leds m base i = base := by
  unfold highlight
  simp only [h.1, h.2, Bool.false_eq_true, if_false, List.find?_eq_none.mpr fun _ _ => Bool.false_ne_true]

/-- **pitch class**: a mapped key with an LED, nothing sounding at its pitch, whose transposed note is a MIDI note, shows
    the class colour of that note -/
theorem C17_pitch_class (d : Dev) (devName : String) (leds : List String) (shifted : RGB × RGB × RGB) (m : Mapping)
    (hm : d.curMap = some m) (hnd : (akeys m.midi).Nodup) (p : (Sub × Code) × Key) (hp : p ∈ m.midi) (hsub : p.1.1 = "")
    (i : Nat) (hi : alookup p.1.2 (indexMap leds) = some i) (hun : Unlit d leds m i)
    (hlo : 0 ≤ (p.2.note : Int) + (d.semitone + d.octave * 12)) (hhi : (p.2.note : Int) + (d.semitone + d.octave * 12) ≤ 127) :
    ∃ l, frame true d devName leds shifted = .ok l ∧
      l[i]? = some (classColor m shifted ((p.2.note : Int) + (d.semitone + d.octave * 12)).toNat) := by
  refine frame_led d devName leds shifted m hm (indexMap_lt leds _ i hi) ?_
  rw [highlight_unlit d leds m _ i hun, lastW_baseW, lastW_keyW hnd hp hsub hi]
  simp only
  rw [if_neg (by omega)]; rfl

/-- no key's LED is called "RGB Strip n": the eighteen strip names are looked up in the LED name table -/
theorem ledKey_strip (devName : String) : ∀ name ∈ stripLeds devName, ledKey name = none := by
  unfold stripLeds
  split
  · decide +kernel
  · simp

/-- **unavailable**: the same key when its transposed note is outside 0‥127, if it is bound to no action: the
    'unavailable' colour -/
theorem C17_unavailable (d : Dev) (devName : String) (leds : List String) (shifted : RGB × RGB × RGB) (m : Mapping)
    (hm : d.curMap = some m) (hnd : (akeys m.midi).Nodup) (p : (Sub × Code) × Key) (hp : p ∈ m.midi) (hsub : p.1.1 = "")
    (i : Nat) (hi : alookup p.1.2 (indexMap leds) = some i) (hun : Unlit d leds m i)
    (hout : (p.2.note : Int) + (d.semitone + d.octave * 12) < 0 ∨ (p.2.note : Int) + (d.semitone + d.octave * 12) > 127)
    (hact : ∀ a, actionCode d.cfg a ≠ some p.1.2) :
    ∃ l, frame true d devName leds shifted = .ok l ∧ l[i]? = some d.cfg.colors.unavailable := by
  refine frame_led d devName leds shifted m hm (indexMap_lt leds _ i hi) ?_
  rw [highlight_unlit d leds m _ i hun, lastW_baseW, lastW_keyW hnd hp hsub hi]
  simp only
  rw [if_pos hout, lastW_actionW_none, lastW_stripW_none]; rfl
  · intro sname hs' e
    obtain ⟨name, hname, hkey⟩ := indexMap_spec leds _ i hi
    rw [hname, Option.some.injEq] at e; subst e
    rw [ledKey_strip devName name hs'] at hkey; cases hkey
  · intro a e
    obtain ⟨k, hk, hki⟩ := Option.bind_eq_some_iff.mp e
    cases indexMap_inj leds _ _ _ hki hi
    exact hact a hk

/-- **external colour**: a key at the pitch of a MIDI-input note on the current channel, with no own note sounding at its
    pitch, shows the external colour -/
theorem C17_external (d : Dev) (devName : String) (leds : List String) (shifted : RGB × RGB × RGB) (m : Mapping)
    (hm : d.curMap = some m) (i : Nat) (hi : i < leds.length)
    (hown : lit (indexMap leds) m (fun (p : Code × (Nat × Nat)) => baseOf p.2.1 (d.semitone + d.octave * 12)) (ownOn d (d.semitone + d.octave * 12)) i = false)
    (hext : lit (indexMap leds) m (fun (p : Nat × Nat) => baseOf p.2 (d.semitone + d.octave * 12))
      (extOn d d.channel (d.semitone + d.octave * 12)) i = true) :
    ∃ l, frame true d devName leds shifted = .ok l ∧ l[i]? = some d.cfg.colors.activeExternal := by
  refine frame_led d devName leds shifted m hm hi ?_
  rw [highlight]
  simp [hown, hext]

/-- **other channels**: with nothing of the device's own or of the current channel at its pitch, the LED shows the colour of
    the lowest MIDI-input channel that has a note there -/
theorem C17_other_channel (d : Dev) (devName : String) (leds : List String) (shifted : RGB × RGB × RGB) (m : Mapping)
    (hm : d.curMap = some m) (i : Nat) (hi : i < leds.length)
    (hown : lit (indexMap leds) m (fun (p : Code × (Nat × Nat)) => baseOf p.2.1 (d.semitone + d.octave * 12)) (ownOn d (d.semitone + d.octave * 12)) i = false)
    (hcur : lit (indexMap leds) m (fun (p : Nat × Nat) => baseOf p.2 (d.semitone + d.octave * 12))
      (extOn d d.channel (d.semitone + d.octave * 12)) i = false)
    (ch : Nat) (hch : ch < 16)
    (hlit : lit (indexMap leds) m (fun (p : Nat × Nat) => baseOf p.2 (d.semitone + d.octave * 12))
      (extOn d ch (d.semitone + d.octave * 12)) i = true)
    (hmin : ∀ c < ch, lit (indexMap leds) m (fun (p : Nat × Nat) => baseOf p.2 (d.semitone + d.octave * 12))
      (extOn d c (d.semitone + d.octave * 12)) i = false) :
    ∃ l, frame true d devName leds shifted = .ok l ∧ l[i]? = some (chanColor ch) := by
  refine frame_led d devName leds shifted m hm hi ?_
  rw [highlight]
  simp only [hown, hcur]
  have : (List.range 16).find? (fun c => lit (indexMap leds) m (fun (p : Nat × Nat) => baseOf p.2 (d.semitone + d.octave * 12))
      (extOn d c (d.semitone + d.octave * 12)) i) = some ch :=
    List.find?_range_eq_some.mpr ⟨hlit, List.mem_range.mpr hch, fun c hc => by simp [hmin c hc]⟩
  simp [this]

theorem unlit_of_no_key (d : Dev) (leds : List String) (m : Mapping) (i : Nat)
    (hno : ∀ q ∈ m.midi, q.1.1 = "" → alookup q.1.2 (indexMap leds) ≠ some i) : Unlit d leds m i :=
  ⟨lit_false_of_no_key _ m _ _ i hno, fun _ => lit_false_of_no_key _ m _ _ i hno⟩

/-- what the key bound to an action shows: the state of the setting it changes -/
def indicator (d : Dev) : Action → Option RGB
  | .panic => some red
  | .octaveUp => some (if d.octave > 0 then (if d.octave = 1 then white2 else white3) else white1)
  | .octaveDown => some (if d.octave < 0 then (if d.octave = -1 then white2 else white3) else white1)
  | .semitoneUp => some (if d.semitone > 0 then (if d.semitone = 1 then white2 else white3) else white1)
  | .semitoneDown => some (if d.semitone < 0 then (if d.semitone = -1 then white2 else white3) else white1)
  | .mappingUp => some (if (d.mapping : Int) = (d.cfg.maps.length : Int) - 1 then white1 else white3)
  | .mappingDown => some (if d.mapping = 0 then white1 else white3)
  | .channelUp => some (if d.channel = 15 then third (chanColor d.channel) else chanColor d.channel)
  | .channelDown => some (if d.channel = 0 then third (chanColor d.channel) else chanColor d.channel)
  | .multinote => some white1
  | _ => none

theorem repaint_getD {α} (c : Prop) [Decidable c] (x y : α) :
    (if c then some x else none).getD y = if c then x else y := by
  split <;> rfl

theorem indicator_spec (d : Dev) (a : Action) : lastPaint (actionPaints d) a = indicator d a := by
  unfold actionPaints
  simp only [lastPaint_append, lastPaint_ite, lastPaint]
  cases a <;>
    simp only [indicator, reduceCtorEq, if_false, if_true, and_false, and_true, Option.or_none, Option.or_some,
      Option.getD_none, repaint_getD]

/-- **indicator keys**: the LED of the key an action is bound to — when that key is not also a note key of the current
    mapping (such an LED is never highlighted: `unlit_of_no_key`) — shows the indicator colour of the device's *current* octave, semitone,
    mapping or channel: octave and semitone keys one step = `white2`, more = `white3`, none = `white1`; the mapping keys
    `white3`, `white1` at the end of the range; the channel keys the channel colour, dimmed at the end of the range; panic
    is red.  For every state, configuration and LED layout. -/
theorem C17_action_key (d : Dev) (devName : String) (leds : List String) (shifted : RGB × RGB × RGB) (m : Mapping)
    (hm : d.curMap = some m) (hn : (akeys d.cfg.actions).Nodup) (a : Action) (c : RGB) (hc : indicator d a = some c)
    (i : Nat) (hi : actionLed d.cfg leds a = some i)
    (hno : ∀ q ∈ m.midi, q.1.1 = "" → alookup q.1.2 (indexMap leds) ≠ some i) :
    ∃ l, frame true d devName leds shifted = .ok l ∧ l[i]? = some c := by
  refine frame_led d devName leds shifted m hm (actionLed_lt hi) ?_
  rw [highlight_unlit d leds m _ i (unlit_of_no_key d leds m i hno), lastW_baseW, lastW_keyW_none hno,
    lastW_actionW hn hi, indicator_spec, hc]; rfl

/-- the octave-up key after the octave was raised once / more than once / not at all -/
theorem C17_octave_up_key (d : Dev) (devName : String) (leds : List String) (shifted : RGB × RGB × RGB) (m : Mapping)
    (hm : d.curMap = some m) (hn : (akeys d.cfg.actions).Nodup)
    (i : Nat) (hi : actionLed d.cfg leds .octaveUp = some i)
    (hno : ∀ q ∈ m.midi, q.1.1 = "" → alookup q.1.2 (indexMap leds) ≠ some i) :
    ∃ l, frame true d devName leds shifted = .ok l ∧
      l[i]? = some (if d.octave ≤ 0 then white1 else if d.octave = 1 then white2 else white3) := by
  apply C17_action_key d devName leds shifted m hm hn .octaveUp _ _ i hi hno
  simp only [indicator, gt_iff_lt, ← Int.not_le, ite_not]

/-! ### non-vacuity: a concrete layout (three LEDs in an order different from the key codes), a held key, MIDI-input
    notes on the current channel and on two other channels -/

def exM : Mapping :=
  { name := "Piano", midi := [(("", 30), ⟨60, 0⟩), (("", 31), ⟨61, 0⟩), (("", 32), ⟨62, 0⟩), (("", 33), ⟨120, 0⟩)],
    analog := [], dz := [], defDz := [] }
def exC : Config :=
  { maps := [exM], actions := [(59, .octaveUp)], exitSeq := [], mode := .off, defOct := 0, defSemi := 0, defCh := 1,
    defMap := 0, vel := 64, axes := [],
    colors := { unavailable := ⟨9, 9, 9⟩, active := ⟨0, 255, 0⟩, activeExternal := ⟨0, 0, 255⟩ } }
def exLeds : List String := ["Key: S", "Key: A", "Key: F1", "Key: D", "Logo", "Key: F"]
def exShift : RGB × RGB × RGB := (⟨1, 1, 1⟩, ⟨2, 2, 2⟩, ⟨3, 3, 3⟩)
/-- key S held; MIDI input: note 60 on the current channel, 62 on channels 4 and 3; octave raised by one (key F1 pressed
    and released), so base note 120 is out of range -/
def exD : Dev :=
  ((Dev.init exC).runFlat [.key "" 59 1, .key "" 59 0, .key "" 31 1, .midiIn 0x90 72 100, .midiIn 0x93 74 100,
    .midiIn 0x92 74 100]).1

/-- the index map of the example layout (looking the six names up in the LED name table is most of the work below) -/
theorem exIndex : indexMap exLeds = [(31, 0), (30, 1), (59, 2), (32, 3), (33, 5)] := by decide +kernel

example : exD.curMap = some exM ∧ (akeys exM.midi).Nodup ∧ exD.octave = 1 := ⟨by rfl, by decide, by decide⟩
/-- S active, A external, F1 (octave up, one step) white2, D channel 3's colour (the lower of 4 and 3), an LED without a
    key untouched, F unavailable (120 + 12 > 127) -/
example : frame true exD "kbd" exLeds exShift =
    .ok [⟨0, 255, 0⟩, ⟨0, 0, 255⟩, white2, chanColor 2, ⟨9, 9, 9⟩, ⟨9, 9, 9⟩] := by decide +kernel
theorem exUnlit : Unlit (Dev.init exC) exLeds exM 1 := by
  unfold Unlit; rw [exIndex]
  exact ⟨by decide, fun ch => by simp [Dev.init, lit, extOn]⟩
example : Unlit (Dev.init exC) exLeds exM 1 := exUnlit
/-- the hypotheses of `C17_pitch_class` hold for key A on the fresh device: its LED shows the C colour -/
example : ∃ l, frame true (Dev.init exC) "kbd" exLeds exShift = .ok l ∧ l[1]? = some ⟨3, 3, 3⟩ :=
  C17_pitch_class (Dev.init exC) "kbd" exLeds exShift exM (by rfl) (by decide) (("", 30), ⟨60, 0⟩) (by decide) rfl 1
    (by rw [exIndex]; rfl) exUnlit (by decide) (by decide)

/-- the hypotheses of `C17_active` hold for key S (note 61, one octave up: pitch 73) in the example state: LED 0 is active -/
example : ∃ l, frame true exD "kbd" exLeds exShift = .ok l ∧ l[0]? = some ⟨0, 255, 0⟩ :=
  C17_active exD "kbd" exLeds exShift exM (by rfl) (31, (73, 0)) (by decide) 31 61 (by decide) (by decide) (by decide) 0
    (by rw [exIndex]; rfl)

/-- the hypotheses of `C17_action_key` hold for F1 (octave up) in the example state: `white2` at LED 2 -/
example : ∃ l, frame true exD "kbd" exLeds exShift = .ok l ∧ l[2]? = some white2 :=
  C17_action_key exD "kbd" exLeds exShift exM (by rfl) (by decide) .octaveUp white2 (by decide) 2
    (by unfold actionLed; rw [exIndex]; rfl) (by rw [exIndex]; decide)

theorem C17_midi_in_note_off (d : Dev) (ch note vel : Nat) (hch : ch < 16) :
    (d.midiIn (0x80 + ch) note vel).ext = serase (ch, note) d.ext := by
  rw [midiIn_note d 8 ch note vel hch (.inl rfl)]; simp

theorem C17_midi_in_note_on_zero (d : Dev) (ch note : Nat) (hch : ch < 16) :
    (d.midiIn (0x90 + ch) note 0).ext = serase (ch, note) d.ext := by
  rw [midiIn_note d 9 ch note 0 hch (.inr rfl)]; simp

theorem C17_midi_in_note_on (d : Dev) (ch note vel : Nat) (hch : ch < 16) (hv : 0 < vel) :
    (d.midiIn (0x90 + ch) note vel).ext = sinsert (ch, note) d.ext := by
  rw [midiIn_note d 9 ch note vel hch (.inr rfl)]; simp; omega

/-- after Note Off (or Note On with velocity 0) the note is not highlighted any more, whatever happened before -/
theorem C17_midi_in_cleared (d : Dev) (ch note : Nat) (hch : ch < 16) :
    (ch, note) ∉ (d.midiIn (0x80 + ch) note 0).ext ∧ (ch, note) ∉ (d.midiIn (0x90 + ch) note 0).ext := by
  rw [C17_midi_in_note_off d ch note 0 hch, C17_midi_in_note_on_zero d ch note hch]
  constructor <;> (intro h; exact (mem_serase.mp h).2 rfl)

/-- the panic action clears the MIDI-input tracker (all channels) -/
theorem C17_panic_clears (d : Dev) : (d.invokePress .panic).1.ext = [] := rfl

/-- the sixteen channel colours (`colorful.Hsv(45·ch + 30, 1, 1)` scaled to bytes) -/
theorem C17_channel_colours :
    (List.range 16).map chanColor =
      [⟨255, 127, 0⟩, ⟨191, 255, 0⟩, ⟨0, 255, 0⟩, ⟨0, 255, 191⟩, ⟨0, 127, 255⟩, ⟨63, 0, 255⟩, ⟨255, 0, 255⟩, ⟨255, 0, 63⟩,
       ⟨255, 127, 0⟩, ⟨191, 255, 0⟩, ⟨0, 255, 0⟩, ⟨0, 255, 191⟩, ⟨0, 127, 255⟩, ⟨63, 0, 255⟩, ⟨255, 0, 255⟩, ⟨255, 0, 63⟩] := by
  decide

end Hidi.Props.C17
