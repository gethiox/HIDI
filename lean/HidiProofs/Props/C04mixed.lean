/-
  C04 on states of histories of every event kind: the note / channel a press resolves to is computed from the current
  octave, semitone, channel and mapping — also when those were changed by an axis bound to actions, and whatever the
  key-emulating axes hold (transfer argument: `Props/C02mixed.lean`).
-/
import HidiProofs.KInvReach
import HidiProofs.Props.C04
namespace Hidi.Props.C04
open Hidi Hidi.Spec Hidi.EngineSim Hidi.AnaIndep Hidi.KInvReach

theorem C04_all_press {cfg : Config} {d : Dev} (hd : KInv cfg d)
    (hcnt : ∀ ch n, d.count ch n = (holders d.noteTr (n, ch) : Int))
    (sub : Sub) (code : Code) (hna : alookup code cfg.actions = none) (hsw : (kt d code 1).exitComplete = false) :
    (d.handleKey sub code 1).2 =
      match resolve cfg (StObs.ofDev d) (u8 cfg.vel) sub code with
      | none => []
      | some (n, ch, v) => C03.pressSpec cfg.mode (holders d.noteTr (n, ch)) ch n v := by
  rw [handleKey_split hd]
  exact C04_press hd hcnt sub code hna hsw

theorem C04_all_press_fresh {cfg : Config} {d : Dev} (hd : KInv cfg d)
    (hcnt : ∀ ch n, d.count ch n = (holders d.noteTr (n, ch) : Int))
    (sub : Sub) (code : Code) (hna : alookup code cfg.actions = none) (hsw : (kt d code 1).exitComplete = false)
    {n ch v : Nat} (hr : resolve cfg (StObs.ofDev d) (u8 cfg.vel) sub code = some (n, ch, v))
    (hfresh : holders d.noteTr (n, ch) = 0) :
    (d.handleKey sub code 1).2 = [noteOnMsg ch n v] := by
  rw [handleKey_split hd]
  exact C04_press_fresh hd hcnt sub code hna hsw hr hfresh

/-- each octave / semitone / channel / mapping action moves its value by exactly one (or stays at the bound) in every
    state satisfying `KInv` -/
theorem C04_all_unit_step {cfg : Config} {d : Dev} (hd : KInv cfg d) (a : Action) :
    stateKeyOf (StObs.ofDev (d.invokePress a).1) = actionEffect cfg (StObs.ofDev d) a :=
  invokePress_state (d := d) hd.cfg_eq hd.ch hd.map a

/-- **bounds** on every history of any event kinds -/
theorem C04_all_bounds (cfg : Config) (hacc : Accepted cfg = true) (evs : List Ev) :
    ((Dev.init cfg).run evs).1.channel < 16 ∧ ((Dev.init cfg).run evs).1.mapping < cfg.maps.length := by
  have h := Hidi.Props.C05.C05_run_ok cfg hacc evs
  exact ⟨h.ch, h.map⟩

end Hidi.Props.C04
