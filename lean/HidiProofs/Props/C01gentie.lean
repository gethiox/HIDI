/-
  C01 (disconnect clause) on the regenerated code: `Hidi/Gen/Bodies.lean` contains the translation of the clean-up of
  `ProcessEvents` (a `NoteOff` for every tracked key, an `AnalogNoteOff` for every tracked identifier, under the event
  mutex), and it equals the model's clean-up for every state.  With `C01_mixed_disconnect`: after every admissible
  history of keys, axes, SYN and MIDI input that has not crashed the device the regenerated clean-up leaves nothing
  sounding and both trackers empty.

  Go ranges over the tracker maps in an unspecified order; the translation folds over the model's list order, and
  `C01_cleanup_any_order` (key tracker) / `Mixed.cleanupWith_silent` (both trackers) are the theorems that the order
  does not matter.
-/
import HidiProofs.Bodies
import HidiProofs.Props.C01
namespace Hidi.Props.C01gen
open Hidi Hidi.GoLite Hidi.Gen Hidi.BodiesTie Hidi.Spec Hidi.EngineSim Hidi.Mixed Hidi.Handlers

theorem C01_gen_translated : "ProcessEvents.cleanup" ∈ Body.translated := by decide

/-- the two loops of `Body.cleanupBody` (events.go: between `d.eventProcessMutex.Lock()` and `.Unlock()` after the event
    loop) are the two folds of `Dev.cleanupWith`; the second ranges over the analog tracker as the first leaves it,
    and `NoteOff` does not write it -/
theorem cleanupBody_tie (d : Dev) (o : List Out := []) :
    Body.cleanupBody (toG d o) = toGR (d.cleanupWith (akeys d.noteTr) (akeys d.anaTr)) o := by
  have h1 := foldl_tie (F := fun g c => Body.noteOff g "" "" c 0 1) (fun c d o => noteOff_tie d "" "" c 0 1 o) (akeys d.noteTr) d o
  have h2 := foldl_tie (F := fun g c => Body.analogNoteOff g c "" "" 0 0 0) (fun c d o => analogNoteOff_tie d c "" "" 0 0 0 o)
    (akeys d.anaTr)
  have ha := foldl_rule (keeps_seq Dev.anaTr) (fun d c => d.noteOff c) (fun d c => by rw [noteOff_writes]) d (akeys d.noteTr)
    (d, []) rfl
  simp only [Body.cleanupBody, Dev.cleanupWith, golite, h1, toGR_eq, h2, ha, List.append_assoc]

/-- generated clean-up = model clean-up, every state -/
theorem C01_gen_cleanup (d : Dev) :
    Body.cleanupBody (toG d) = toGR (d.cleanupWith (akeys d.noteTr) (akeys d.anaTr)) := cleanupBody_tie d

/-- after every admissible history that has not crashed the device the regenerated clean-up silences everything the
    device still has sounding and empties both trackers -/
theorem C01_gen_disconnect (cfg : Config) (evs : List Ev) (hacc : Accepted cfg = true)
    (hok : OKHistory (Dev.init cfg) evs) (hdead : ((Dev.init cfg).runFlat evs).1.dead = false) :
    let g := Body.cleanupBody (toG ((Dev.init cfg).runFlat evs).1)
    sounding (sounding [] ((Dev.init cfg).runFlat evs).2) g.out = [] ∧ g.noteTr = [] ∧ g.anaTr = [] := by
  intro g
  have h := C01.C01_mixed_disconnect cfg evs hacc hok hdead
  simp only [Dev.cleanup, hdead, Bool.false_eq_true, ↓reduceIte] at h
  rw [show g = _ from cleanupBody_tie _]
  exact h

end Hidi.Props.C01gen
