/-
  C11 on the regenerated code: `Hidi/Gen/NoteFn.lean` is the translation of `StringToNote` (config/event.go) made by
  tools/extract/notes.go on every run — the order of its checks, the `-0` test, the `uint8` arithmetic
  `(uint8(octave)+2)*12 + pitchVal` and the range test are translated; the regular-expression match, `strings.ToUpper`, the
  (regenerated) pitch table and `strconv.Atoi` on the matched octave are the primitives of `Hidi/Notes.lean`.  It equals
  the model's `stringToNote` for every string, so the theorems of `Props/C11.lean` (round trip, only the 128 names, case,
  rejections) are about the Go function itself.
-/
import Hidi.Gen.NoteFn
import HidiProofs.GoLiteTie
namespace Hidi.Props.C11gen
open Hidi Hidi.GoLite Hidi.Gen

theorem C11_gen_translated : Body.stringToNoteTranslated = true := by decide

open Hidi.BodiesTie in
/-- the `uint8` arithmetic `(uint8(octave)+2)*12 + pitchVal` on the translation's `Int`s is the model's on `Nat`s -/
theorem calc_cast (o : Int) (p : Nat) :
    wrapU8 (wrapU8 (wrapU8 (wrapU8 o + 2) * 12) + (p : Int)) = ((((u8 o + 2) % 256) * 12 % 256 + p) % 256 : Nat) := by
  rw [wrapU8_eq o, show ((u8 o : Nat) : Int) + 2 = ((u8 o + 2 : Nat) : Int) from rfl, wrapU8_nat,
    show (((u8 o + 2) % 256 : Nat) : Int) * 12 = (((u8 o + 2) % 256 * 12 : Nat) : Int) from rfl, wrapU8_nat,
    ← Int.natCast_add, wrapU8_nat]

theorem C11_gen_stringToNote (s : List Char) : Body.stringToNote s = stringToNote s := by
  rcases hm : matchNote s with _ | ⟨pitch, neg, d⟩
  · simp only [Body.stringToNote, stringToNote, Id.run, pure, hm]
  rcases hp : pitchVal (pitch.map upperC) with _ | p
  · simp only [Body.stringToNote, stringToNote, Id.run, pure, hm, hp, Option.isSome_none, Bool.not_false, ↓reduceIte]
  by_cases hz : neg = true ∧ digitVal d = 0
  · simp only [Body.stringToNote, stringToNote, Id.run, pure, hm, hp, hz, Option.isSome_some, Bool.not_true, Bool.false_eq_true,
      ↓reduceIte, beq_self_eq_true, Bool.and_self, and_self]
  simp only [Body.stringToNote, stringToNote, golite, hm, hp, hz, ↓reduceIte, Option.getD_some, calc_cast, Int.toNat_natCast]
  -- the value is a `uint8`: never negative
  generalize ((u8 _ + 2) % 256 * 12 % 256 + p) % 256 = cal
  have e : ((cal : Int) < 0 ∨ (cal : Int) > 127) = (cal > 127) := by rw [eq_iff_iff]; omega
  simp only [e]

end Hidi.Props.C11gen
