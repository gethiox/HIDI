/-
  C19 — Configuration changes are noticed.  Theorems about the transition system `Hidi.Watch`.

  * `C19_accounting`     : in every run, notifications received + (1 if one is being offered) + offers abandoned at
                           shutdown = relevant events taken from the stream; so a notification is never produced by
                           anything but a `write` event on a name with the suffix (`C19_silent`);
  * `C19_take_offers`    : a relevant event that is taken is offered immediately, and nothing else is taken from the
                           stream until that offer is received or abandoned (`C19_no_take_while_offering`);
  * `C19_stops`          : when the hand-off is selected against `ctx.Done()`, after cancellation the goroutine returns
                           on its own — no consumer step needed — from every state; and the closer goroutine closes the
                           fsnotify watcher wherever the event loop is (`C19_watcher_stops`);
  * `C19_stuck_unguarded`: without that `select` there is a state (offering, cancelled) in which the goroutine can do
                           nothing on its own: the machine-checked form of the defect repaired in monitor.go;
  * `C19_source_facts`   : the three parameters (suffix, hand-off selected against `ctx.Done()`, closer goroutine) and the
                           `Op` test as the extractor reads them from monitor.go.
-/
import Hidi.Watch
import Hidi.Gen.Tables
namespace Hidi.Props.C19
open Hidi Hidi.Watch

/-- the source-dependent parameters of the model, regenerated from monitor.go on every run -/
theorem C19_source_facts :
    Gen.watchSuffix = ".toml" ∧ Gen.watchHandoffSelectsCtx = true ∧ Gen.watchOpTest = "event.Op != fsnotify.Write" ∧
    Gen.watchCloserGoroutine = true :=
  ⟨rfl, rfl, rfl, rfl⟩

theorem step_keeps (w : W) (x : Step) :
    (step w x).suffix = w.suffix ∧ (step w x).selectsCtx = w.selectsCtx ∧ (step w x).hasCloser = w.hasCloser ∧
    (x ≠ .cancel → (step w x).cancelled = w.cancelled) := by
  cases x <;> simp only [step] <;> (repeat' split) <;> simp

theorem step_suffix (w : W) (x : Step) : (step w x).suffix = w.suffix := (step_keeps w x).1

theorem step_selectsCtx (w : W) (x : Step) : (step w x).selectsCtx = w.selectsCtx := (step_keeps w x).2.1

theorem step_hasCloser (w : W) (x : Step) : (step w x).hasCloser = w.hasCloser := (step_keeps w x).2.2.1

theorem step_cancelled (w : W) {x : Step} (h : x ≠ .cancel) : (step w x).cancelled = w.cancelled := (step_keeps w x).2.2.2 h

def offeringBit (w : W) : Nat := if w.pc = .offering then 1 else 0

def Acc (w : W) : Prop := w.delivered + offeringBit w + w.abandoned = w.taken

theorem step_acc (w : W) (s : Step) (h : Acc w) (he : enabled w s = true) : Acc (step w s) := by
  unfold Acc offeringBit at *
  cases s with
  | fs e => simp only [step]; split <;> exact h
  | take =>
    simp only [enabled, Bool.and_eq_true, decide_eq_true_eq] at he
    cases hq : w.queue with
    | nil => simp [hq] at he
    | cons e r =>
      simp only [step, hq, he.1, if_true]
      split
      · simp [he.1] at h ⊢; omega
      · simp [he.1] at h ⊢; omega
  | handoff =>
    simp only [enabled, decide_eq_true_eq] at he
    simp only [step, he, if_true]
    simp [he] at h ⊢; omega
  | cancel => exact h
  | finish =>
    simp only [enabled, Bool.and_eq_true, decide_eq_true_eq] at he
    simp only [step]
    split
    · simp [he.1.1] at h ⊢; omega
    · exact h
  | abandon =>
    simp only [enabled, Bool.and_eq_true, decide_eq_true_eq] at he
    simp only [step, he.1.1, he.1.2, he.2, and_self, if_true]
    simp [he.1.1] at h ⊢; omega

theorem run_acc (steps : List Step) : ∀ (w : W), Acc w → Acc (run w steps) := by
  induction steps with
  | nil => intro w h; exact h
  | cons s r ih =>
    intro w h
    simp only [run]
    split
    · rename_i he; exact ih _ (step_acc w s h he)
    · exact ih _ h

def init (suffix : String) (sel : Bool) : W := { suffix := suffix, selectsCtx := sel }

theorem C19_accounting (suffix : String) (sel : Bool) (steps : List Step) :
    Acc (run (init suffix sel) steps) :=
  run_acc steps _ (by simp [Acc, init, offeringBit])

def relevantFed (suffix : String) : List Step → Nat
  | [] => 0
  | .fs e :: r => (if relevant suffix e then 1 else 0) + relevantFed suffix r
  | _ :: r => relevantFed suffix r

def pendingRelevant (w : W) : Nat := (w.queue.filter (relevant w.suffix)).length

theorem relevantFed_cons (suffix : String) (s : Step) (r : List Step) :
    relevantFed suffix (s :: r) = relevantFed suffix [s] + relevantFed suffix r := by
  cases s <;> simp [relevantFed]

/-- relevant events taken or still queued: a potential that only the arrival of a relevant event raises, by one -/
theorem step_taken_le (w : W) (s : Step) :
    (step w s).taken + pendingRelevant (step w s) ≤ w.taken + pendingRelevant w + relevantFed w.suffix [s] := by
  cases s with
  | fs e =>
    simp only [step, relevantFed]
    split
    · simp
    · simp only [pendingRelevant, List.filter_append, List.length_append, List.filter_cons, List.filter_nil]
      split <;> simp <;> omega
  | take =>
    simp only [step]
    split
    · simp
    · rename_i e q hq
      split
      · split
        · rename_i hr
          simp only [pendingRelevant, hq, List.filter_cons, hr, if_true, List.length_cons]; omega
        · rename_i hr
          simp only [pendingRelevant, hq, List.filter_cons, hr]; simp
      · simp
  | handoff => simp only [step]; split <;> simp [pendingRelevant]
  | cancel => simp [step, pendingRelevant]
  | finish => simp only [step]; split <;> simp [pendingRelevant]
  | abandon => simp only [step]; split <;> simp [pendingRelevant]

theorem run_taken_le (steps : List Step) : ∀ (w : W),
    (run w steps).taken + pendingRelevant (run w steps) ≤ w.taken + pendingRelevant w + relevantFed w.suffix steps ∧
    (run w steps).suffix = w.suffix := by
  induction steps with
  | nil => intro w; exact ⟨Nat.le_refl _, rfl⟩
  | cons s r ih =>
    intro w
    rw [relevantFed_cons]
    simp only [run]
    split
    · obtain ⟨h1, h2⟩ := ih (step w s)
      rw [step_suffix] at h1
      exact ⟨by have := step_taken_le w s; omega, h2.trans (step_suffix w s)⟩
    · obtain ⟨h1, h2⟩ := ih w
      exact ⟨by omega, h2⟩

/-- **silent**: the number of notifications received never exceeds the number of `write` events on names with the
    suffix; in particular a schedule without such an event delivers nothing -/
theorem C19_silent (suffix : String) (sel : Bool) (steps : List Step) :
    (run (init suffix sel) steps).delivered ≤ relevantFed suffix steps := by
  have h1 := C19_accounting suffix sel steps
  have h2 := (run_taken_le steps (init suffix sel)).1
  have e1 : (init suffix sel).taken = 0 := rfl
  have e2 : pendingRelevant (init suffix sel) = 0 := rfl
  have e3 : (init suffix sel).suffix = suffix := rfl
  rw [e1, e2, e3] at h2
  unfold Acc at h1
  omega

theorem C19_take_offers (w : W) (e : FsEvent) (r : List FsEvent) (hq : w.queue = e :: r) (hpc : w.pc = .waiting)
    (hrel : relevant w.suffix e = true) : (step w .take).pc = .offering ∧ (step w .take).queue = r := by
  simp only [step, hq, hpc, hrel, if_true, and_self]

theorem C19_skip_irrelevant (w : W) (e : FsEvent) (r : List FsEvent) (hq : w.queue = e :: r) (hpc : w.pc = .waiting)
    (hrel : relevant w.suffix e = false) :
    (step w .take).pc = .waiting ∧ (step w .take).queue = r ∧ (step w .take).delivered = w.delivered := by
  simp only [step, hq, hpc, hrel, if_true, Bool.false_eq_true, if_false, and_self]

theorem C19_no_take_while_offering (w : W) (h : w.pc = .offering) : enabled w .take = false := by
  simp [enabled, h]

/-- what counts as relevant: a `write` whose lower-cased name ends with the suffix -/
theorem C19_relevant_iff (suffix : String) (e : FsEvent) :
    relevant suffix e = true ↔ e.op = .write ∧ hasSuffix (lower e.name) suffix = true := by
  simp [relevant]

theorem settle_done (n : Nat) (w : W) (h : w.pc = .done) : (settle n w).pc = .done := by
  cases n with
  | zero => exact h
  | succ n =>
    have : soloStep w = none := by simp [soloStep, enabled, h]
    simp only [settle, this]; exact h

/-- the goroutine alone, after cancellation, with the guarded hand-off: it returns (one step per queued event, then at
    most one more to abandon the offer or to see the stream drained) -/
theorem settle_stops (n : Nat) : ∀ (w : W), w.selectsCtx = true → w.cancelled = true → w.queue.length + 2 ≤ n →
    (settle n w).pc = .done := by
  induction n with
  | zero => intro w _ _ hn; omega
  | succ n ih =>
    intro w hs hc hn
    cases hpc : w.pc with
    | done => exact settle_done _ w hpc
    | offering =>
      have : soloStep w = some .abandon := by simp [soloStep, enabled, hpc, hc, hs]
      simp only [settle, this]
      exact settle_done n _ (by simp [step, hpc, hc, hs])
    | waiting =>
      cases hq : w.queue with
      | nil =>
        have : soloStep w = some .finish := by simp [soloStep, enabled, hpc, hq, hc]
        simp only [settle, this]
        exact settle_done n _ (by simp [step, hpc, hq, hc])
      | cons e r =>
        have : soloStep w = some .take := by simp [soloStep, enabled, hpc, hq]
        simp only [settle, this]
        have hql : (step w .take).queue.length = r.length := by
          simp only [step, hq, hpc, if_true]; split <;> rfl
        apply ih _ ((step_selectsCtx w .take).trans hs) ((step_cancelled w (by simp)).trans hc)
        rw [hql]
        simp only [hq, List.length_cons] at hn
        omega

/-- **stops**: guarded hand-off, cancelled ⇒ the goroutine returns without any consumer step, from every state -/
theorem C19_stops (w : W) (hs : w.selectsCtx = true) (hc : w.cancelled = true) : (settleAll w).pc = .done :=
  settle_stops _ w hs hc (Nat.le_refl _)

theorem soloStep_keeps (w : W) (st : Step) (h : soloStep w = some st) :
    (step w st).cancelled = w.cancelled ∧ (step w st).hasCloser = w.hasCloser := by
  have hne : st ≠ .cancel := by
    unfold soloStep at h
    (repeat' split at h) <;> cases h <;> simp
  exact ⟨step_cancelled w hne, step_hasCloser w st⟩

theorem settle_keeps (n : Nat) : ∀ w : W, (settle n w).cancelled = w.cancelled ∧ (settle n w).hasCloser = w.hasCloser := by
  induction n with
  | zero => intro w; exact ⟨rfl, rfl⟩
  | succ n ih =>
    intro w
    simp only [settle]
    split
    · rename_i st hst
      obtain ⟨a, b⟩ := soloStep_keeps w st hst
      obtain ⟨c, d⟩ := ih (step w st)
      exact ⟨c.trans a, d.trans b⟩
    · exact ⟨rfl, rfl⟩

/-- **the watcher stops** (guarded hand-off, closer goroutine present): after cancellation the event-loop goroutine returns
    *and* the fsnotify watcher is closed, from every state, without any consumer step — the closer goroutine does not
    depend on where the event loop is (in particular not on whether the hand-off was abandoned) -/
theorem C19_watcher_stops (w : W) (hs : w.selectsCtx = true) (hcl : w.hasCloser = true) (hc : w.cancelled = true) :
    stopped (closeW (settleAll w)) = true := by
  have h1 := C19_stops w hs hc
  obtain ⟨a, b⟩ := settle_keeps (w.queue.length + 2) w
  have a' : (settleAll w).cancelled = true := a.trans hc
  have b' : (settleAll w).hasCloser = true := b.trans hcl
  unfold stopped closeW closeEnabled
  rw [a', b']
  cases ho : (settleAll w).watcherOpen <;> simp [h1, ho]

/-- without the closer goroutine the watcher stays open when the hand-off is abandoned (the defect of a seeded change) -/
example : let w : W := { suffix := ".toml", selectsCtx := true, hasCloser := false, pc := .offering, cancelled := true }
    (closeW (settleAll w)).pc = .done ∧ (closeW (settleAll w)).watcherOpen = true := by decide

/-- **the unguarded hand-off can block forever**: offering + cancelled + no reader ⇒ no goroutine step is enabled -/
theorem C19_stuck_unguarded :
    ∃ w : W, w.selectsCtx = false ∧ w.cancelled = true ∧ w.pc = .offering ∧ soloStep w = none ∧
      (settleAll w).pc = .offering :=
  ⟨{ suffix := ".toml", selectsCtx := false, pc := .offering, cancelled := true }, rfl, rfl, rfl, by decide, by decide⟩

/-- such a state is reachable: a write event, the goroutine takes it, the context is cancelled -/
example : (run (init ".toml" false) [.fs ⟨.write, "a.toml"⟩, .take, .cancel]).pc = .offering ∧
    (run (init ".toml" false) [.fs ⟨.write, "a.toml"⟩, .take, .cancel]).cancelled = true := by decide

/-! ### non-vacuity and the filter on concrete names -/

example : relevant ".toml" ⟨.write, "My Pad.TOML"⟩ = true := by decide
example : relevant ".toml" ⟨.write, "xtoml"⟩ = false := by decide
example : relevant "toml" ⟨.write, "xtoml"⟩ = true := by decide     -- the pre-fix suffix literal
example : relevant ".toml" ⟨.chmod, "a.toml"⟩ = false := by decide
example : (run (init ".toml" true) [.fs ⟨.write, "a.toml"⟩, .take, .handoff]).delivered = 1 := by decide

end Hidi.Props.C19
