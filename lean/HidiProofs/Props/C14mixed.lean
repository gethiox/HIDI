/-
  C14 on histories of every event kind (keys, axes of all four types, SYN, MIDI input) — no press discipline, no
  key-only restriction:

  * `C14_all_tracker`   : as long as the device has not crashed, the key tracker is exactly the set of keys whose last
                          key event was a press — axis, SYN and MIDI-input events never touch it;
  * `C14_all_signal_iff`: from every non-crashed state satisfying `C05.DevOK` (every reachable one, `C05_run_ok`), an event
                          raises the termination signal iff it is a key press after which every key of the (non-empty) exit
                          sequence is in the tracker — no axis event (not even an axis emulating keys or actions), SYN or
                          MIDI-input event ever raises it;
  * `C14_all_history`   : hence, on every history, the signal is raised at step i (the device not crashed before it) iff
                          event i is a press that completes the sequence among the keys down at that moment.
-/
import HidiProofs.Handlers
import HidiProofs.Props.C05full
import HidiProofs.Props.C14
namespace Hidi.Props.C14
open Hidi Hidi.Spec Hidi.EngineSim Hidi.KeyHist Hidi.Props.C05 Hidi.Handlers

theorem nosig_seq : Seq (fun _ r => Out.sig ∉ r.2) :=
  ⟨fun _ => List.not_mem_nil, fun h1 h2 h => (List.mem_append.mp h).elim h1 h2⟩

theorem nosig_invokePress (d : Dev) (a : Action) : Out.sig ∉ (d.invokePress a).2 := by
  rw [invokePress_outs]
  unfold panicOuts ccEvent noteEvent
  split <;> simp

theorem nosig_noteOn (d : Dev) (sub : Sub) (code : Code) : Out.sig ∉ (d.noteOn sub code).2 := by
  cases hm : d.curMap with
  | none => rw [noteOn_crash hm]; simp
  | some m =>
    exact noteOn_cases (P := fun r => Out.sig ∉ r.2) hm sub code List.not_mem_nil fun _ _ _ _ =>
      midi_no_sig (pressOuts_midi _ _ _ _ _)

theorem nosig_noteOff (d : Dev) (code : Code) : Out.sig ∉ (d.noteOff code).2 := by
  rw [noteOff_raw]
  cases alookup code d.noteTr with
  | none => exact List.not_mem_nil
  | some q =>
    exact iteInduction (motive := fun l : List Out => Out.sig ∉ l) (fun _ h => by cases List.mem_singleton.mp h)
      fun _ => List.not_mem_nil

theorem nosig_analogNoteOn (d : Dev) (id : Code × Bool) (n c : Nat) : Out.sig ∉ (d.analogNoteOn id n c).2 := by
  rw [AxisKeyLemmas.analogNoteOn_eq]
  exact iteInduction (motive := fun r : Dev × List Out => Out.sig ∉ r.2) (fun _ => List.not_mem_nil) fun _ h => by
    cases List.mem_singleton.mp h

theorem nosig_analogNoteOff (d : Dev) (id : Code × Bool) : Out.sig ∉ (d.analogNoteOff id).2 := by
  rw [AxisKeyLemmas.analogNoteOff_eq]
  intro h
  obtain ⟨_, _, -, h⟩ := AxisKeyLemmas.mem_offOuts.mp h
  cases h

theorem nosig_handleAbs (d : Dev) (sub : Sub) (node : String) (code : Code) (raw : Int) :
    Out.sig ∉ (d.handleAbs sub node code raw).2 :=
  have nil : ∀ d : Dev, Out.sig ∉ (d, ([] : List Out)).2 := fun _ => List.not_mem_nil
  handleAbs_rule nosig_seq (fun _ => by simp) nosig_analogNoteOff (fun d _ => nil d)
    (absCC_rule nosig_seq (fun _ _ _ _ _ => by simp [ccEvent]) fun d _ _ => nil d)
    (fun _ _ _ _ => by simp [pitchBendEvent])
    (absKey_rule nosig_seq nosig_analogNoteOff fun d id n c _ => nosig_analogNoteOn d id n c)
    (absAction_rule nosig_seq nil nosig_invokePress (fun d _ => nil d) fun d _ => nil d) d sub node code raw

/-- **signal iff completing press**, from every state with a current mapping — whatever else is going on (axes
    deflected, emulated keys sounding, actions held) -/
theorem C14_all_signal_key {d : Dev} {m : Mapping} (hm : d.curMap = some m) (sub : Sub) (code : Code) (val : Int) :
    Out.sig ∈ (d.handleKey sub code val).2 ↔ (val = 1 ∧ (kt d code val).exitComplete = true) := by
  have no : ∀ {l : List Out}, ¬ (val = 1 ∧ (kt d code val).exitComplete = true) → Out.sig ∉ l →
      (Out.sig ∈ l ↔ (val = 1 ∧ (kt d code val).exitComplete = true)) := fun h1 h2 => iff_of_false h2 h1
  refine handleKey_cases (P := fun r => Out.sig ∈ r.2 ↔ _) d sub code val (fun h => by rw [hm] at h; cases h)
    (fun h1 h2 => iff_of_true List.mem_cons_self ⟨h1, h2⟩)
    (fun hn a _ _ => no hn ?_) (fun a _ h0 => no (fun h => by omega) List.not_mem_nil)
    (fun hn _ _ => no hn (nosig_noteOn _ _ _)) (fun _ h0 => no (fun h => by omega) (nosig_noteOff _ _))
    (fun h1 _ => no (fun h => h1 h.1) List.not_mem_nil)
  exact actPress_rule nosig_seq (fun _ => List.not_mem_nil) nosig_invokePress (fun _ _ => List.not_mem_nil) _ a

theorem analogNoteOn_keyTr (d : Dev) (id : Code × Bool) (n c : Nat) : (d.analogNoteOn id n c).1.keyTr = d.keyTr := by
  rw [AxisKeyLemmas.analogNoteOn_writes]

theorem step_dead_of_dead (d : Dev) (e : Ev) (h : d.dead = true) : d.step e = (d, []) := by
  unfold Dev.step; rw [if_pos h]

theorem run_dead_of_dead (evs : List Ev) (d : Dev) (h : d.dead = true) : (d.run evs).1 = d :=
  run_induction (P := (· = d)) (fun r e _ hr => by rw [hr, step_dead_of_dead d e h]) rfl

theorem alive_before (es : List Ev) (d : Dev) (h : (d.run es).1.dead = false) : d.dead = false := by
  cases hd : d.dead with
  | false => rfl
  | true => rw [run_dead_of_dead es d hd, hd] at h; cases h

theorem step_keyTr (d : Dev) (e : Ev) (hdead : (d.step e).1.dead = false) :
    (d.step e).1.keyTr = keysDown [e] d.keyTr := by
  revert hdead
  refine step_cases (P := fun r => r.1.dead = false → r.1.keyTr = keysDown [e] d.keyTr) d e
    (fun h h' => by rw [h] at h'; cases h') (fun he _ => by rw [he]; rfl)
    (fun s c he _ => by rw [he]; simp [keysDown]) ?_ ?_ (fun a b c x he _ => by rw [he]; rfl)
  · intro s c v he hv hdead
    cases hm : d.curMap with
    | none => rw [handleKey_crash hm] at hdead; cases hdead
    | some m => rw [he, handleKey_keyTr hm, kt_keyTr]; simp only [keysDown, hv, if_false]
  · intro s n c v he _
    rw [he, handleAbs_writes]; rfl

/-- **the signal is raised by an event iff it is a key press that completes the exit sequence** — SYN, MIDI input and
    axis events of every type never raise it -/
theorem C14_all_signal_iff {cfg : Config} {d : Dev} (hd : DevOK cfg d) (hdead : d.dead = false) (e : Ev) :
    Out.sig ∈ (d.step e).2 ↔
      ∃ sub code, e = .key sub code 1 ∧ cfg.exitSeq ≠ [] ∧ ∀ k ∈ cfg.exitSeq, k ∈ d.keyTr ∨ k = code := by
  have hcfg := hd.cfg_eq
  obtain ⟨m, hm⟩ := hd.curMap
  have no : ∀ {l : List Out}, Out.sig ∉ l → (∀ sub code, e ≠ .key sub code 1) → (Out.sig ∈ l ↔
      ∃ sub code, e = .key sub code 1 ∧ cfg.exitSeq ≠ [] ∧ ∀ k ∈ cfg.exitSeq, k ∈ d.keyTr ∨ k = code) :=
    fun h1 h2 => iff_of_false h1 fun ⟨s, c, h, _⟩ => h2 s c h
  refine step_cases (P := fun r => Out.sig ∈ r.2 ↔ _) d e (fun h => by rw [hdead] at h; cases h)
    (fun he => no List.not_mem_nil (by rw [he]; intro _ _ h; cases h))
    (fun s c he => no List.not_mem_nil (by rw [he]; intro _ _ h; cases h)) ?_
    (fun s n c v he => no (nosig_handleAbs d s n c v) (by rw [he]; intro _ _ h; cases h))
    (fun a b c x he => no List.not_mem_nil (by rw [he]; intro _ _ h; cases h))
  intro s c v he _
  rw [C14_all_signal_key hm, he]
  constructor
  · rintro ⟨rfl, h2⟩
    rw [C14_complete_iff, hcfg] at h2
    exact ⟨s, c, rfl, h2⟩
  · rintro ⟨s', c', h, h2⟩
    cases h
    exact ⟨rfl, by rw [C14_complete_iff, hcfg]; exact h2⟩

theorem run_keyTr (evs : List Ev) : ∀ d : Dev, (d.run evs).1.dead = false → (d.run evs).1.keyTr = keysDown evs d.keyTr := by
  induction evs with
  | nil => intro d _; rfl
  | cons e es ih =>
    intro d hdd
    rw [run_cons] at hdd ⊢
    rw [ih _ hdd, step_keyTr d e (alive_before es _ hdd), ← keysDown_cons]

/-- **the key tracker is the set of keys that are down**, after any history of keys, axes, SYN and MIDI input, as long
    as the device has not crashed -/
theorem C14_all_tracker (cfg : Config) (hacc : Accepted cfg = true) (evs : List Ev)
    (hdead : ((Dev.init cfg).run evs).1.dead = false) :
    ((Dev.init cfg).run evs).1.keyTr = keysDown evs [] :=
  run_keyTr evs _ hdead

theorem keysDown_append (l r : List Ev) : ∀ acc, keysDown (l ++ r) acc = keysDown r (keysDown l acc) := by
  induction l with
  | nil => intro acc; rfl
  | cons x l ih => intro acc; rw [List.cons_append, keysDown_cons, ih, ← keysDown_cons]

/-- **on every history**: step `i`, met by a device that has not crashed, raises the termination signal iff event `i` is a
    press after which every key of the non-empty exit sequence is down (pressed, in any order, and not released since) -/
theorem C14_all_history (cfg : Config) (hacc : Accepted cfg = true) (evs : List Ev) (i : Nat) (hi : i < evs.length)
    (hdead : ((Dev.init cfg).run (evs.take i)).1.dead = false) :
    Out.sig ∈ (((Dev.init cfg).run (evs.take i)).1.step evs[i]).2 ↔
      ∃ sub code, evs[i] = .key sub code 1 ∧ cfg.exitSeq ≠ [] ∧ ∀ k ∈ cfg.exitSeq, k ∈ keysDown (evs.take (i + 1)) [] := by
  rw [C14_all_signal_iff (C05_run_ok cfg hacc (evs.take i)) hdead, C14_all_tracker cfg hacc (evs.take i) hdead,
    List.take_succ_eq_append_getElem hi, keysDown_append]
  refine exists_congr fun sub => exists_congr fun code => and_congr_right fun he => and_congr_right fun _ => ?_
  rw [he]
  simp only [keysDown, if_true]
  rw [if_neg (by decide)]
  simp only [mem_sinsert]

/-- with an empty exit sequence no step of any history, met by a device that has not crashed, raises the signal -/
theorem C14_all_never_when_empty (cfg : Config) (hacc : Accepted cfg = true) (hempty : cfg.exitSeq = []) (evs : List Ev)
    (i : Nat) (hi : i < evs.length) (hdead : ((Dev.init cfg).run (evs.take i)).1.dead = false) :
    Out.sig ∉ (((Dev.init cfg).run (evs.take i)).1.step evs[i]).2 := by
  rw [C14_all_history cfg hacc evs i hi hdead]
  rintro ⟨_, _, _, hne, _⟩
  exact hne hempty

/-! ### non-vacuity: a history with axis, SYN and MIDI-input events between the two presses of the sequence -/

def mixedEvs : List Ev :=
  [.key "" 30 1, .abs "" "js0" 3 17, .syn, .midiIn 0x90 60 100, .key "" 1 1, .abs "" "js0" 3 0, .key "" 1 0, .key "" 30 0]

example : ((Dev.init exCfg).run mixedEvs).1.dead = false := by decide
example : ((Dev.init exCfg).run mixedEvs).2 = [[noteOnMsg 0 60 64], [], [], [], [.sig], [], [], [noteOffMsg 0 60]] := by decide
example : keysDown (mixedEvs.take 5) [] = [30, 1] ∧ keysDown mixedEvs [] = [] := by decide

end Hidi.Props.C14
