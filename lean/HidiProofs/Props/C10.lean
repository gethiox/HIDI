/-
  C10 — Accepted configurations say what the file says; invalid values are rejected.
  Theorems about `Hidi.convert` (the model of the post-decode half of `ParseData`), for every decoded structure.

  * `C10_in_range`        : every accepted configuration satisfies `Accepted` — notes ≤ 127, controllers ≤ 119, channel
                            offsets ≤ 15 in every mapping, default mapping index inside the list, default channel 1–16,
                            velocity 1–127.  (This is the hypothesis the engine theorems C01–C05, C13, C14 start from.)
  * `C10_scalars`         : collision mode, exit sequence, identifier, defaults (velocity 0 meaning 64) and the colour split
                            are exactly what the structure says;
  * `C10_key_rejects`     : an accepted key entry has a note ≤ 127 and a channel offset ≤ 15 (what an entry means is shown
                            on examples);
  * `C10_rejects_*`       : unsupported collision mode, default channel outside 1–16, velocity outside 0–127, a default
                            mapping that does not exist, an unknown key name or unsupported action in the action table:
                            error;
  * `C10_table_rejects`   : any one table (`convTable`: keys, axes, deadzones, actions) with an unknown key name or a value
                            its entry conversion rejects is rejected as a whole;
  * `C10_table_values`    : everything bound in a converted table is the conversion of an entry of the file;
  * `C10_table_complete`  : an accepted table binds exactly the codes the file names, each once, and a code named once is
                            bound to the conversion of its own value;
  * `C10_mapping_keys_complete/sound`, `C10_mapping_axes_complete` : the same for a whole mapping whose tables have pairwise
                            distinct sub-handler names — a key line, axis line or deadzone entry whose code its table
                            names once is in the accepted mapping under (sub-handler, code), so is every default
                            deadzone, and the mapping has no key binding that is not a line of the file;
  * `convExit_spec`       : the exit sequence is the file's, name by name, in order.
  Unknown *fields* are rejected by the decoder (`DisallowUnknownFields`), which is outside the model: covered by the
  differential run.
-/
import HidiProofs.AList
import HidiProofs.NotesLemmas
import HidiProofs.Props.C09
import Hidi.Parser
import Hidi.Spec
namespace Hidi.Props.C10
open Hidi Hidi.Spec

theorem convKey_ok {v : String} {k : Key} (h : convKey v = .ok k) : keyOk k = true := by
  unfold convKey at h
  simp only [] at h
  repeat' split at h
  all_goals cases h
  all_goals simp only [keyOk, Bool.and_eq_true, decide_eq_true_eq, Bool.decide_and]
  -- two accepting branches: a note number that passed the range test, and a note name
  · omega
  · rename_i hn
    have := NotesLemmas.stringToNote_lt hn
    omega

theorem inRange_iff {lo hi x : Int} : inRange lo hi x = true ↔ lo ≤ x ∧ x ≤ hi := by
  simp [inRange]

theorem convAnalog_ok {a : TAnalog} {x : Analog} (h : convAnalog a = .ok x) : analogOk x = true := by
  unfold convAnalog at h
  simp only [inRange_iff] at h
  repeat' split at h
  all_goals cases h
  -- the accepting branches: every numeric field is 0 or the `toNat` of a value that passed its range test
  all_goals
    simp only [analogOk, Bool.and_eq_true, decide_eq_true_eq, Bool.decide_and, Int.toNat_le]
    omega

/-- induction over an accepted table; an entry put in front overrides what the rest binds to the same code -/
theorem convTable_induction {α β} {table : List (String × Nat)} {f : α → Outcome β}
    {motive : List (String × α) → List (Nat × β) → Prop} (nil : motive [] [])
    (cons : ∀ k v rest code b r, keyToEvCode k table = some code → f v = .ok b → convTable table f rest = .ok r →
      motive rest r → motive ((k, v) :: rest) (ainsert code b r)) :
    ∀ l r, convTable table f l = .ok r → motive l r
  | [], _, h => by cases h; exact nil
  | (k, v) :: rest, _, h => by
    simp only [convTable] at h
    repeat' split at h
    all_goals cases h
    exact cons k v rest _ _ _ ‹_› ‹_› ‹_› (convTable_induction nil cons rest _ ‹_›)

/-- everything bound in a converted table is the conversion of some entry of the file -/
theorem C10_table_values {α β} (table : List (String × Nat)) (f : α → Outcome β) :
    ∀ (l : List (String × α)) (r : List (Nat × β)), convTable table f l = .ok r →
      ∀ p ∈ r, ∃ k v, (k, v) ∈ l ∧ keyToEvCode k table = some p.1 ∧ f v = .ok p.2 := by
  refine convTable_induction (fun p hp => nomatch hp) ?_
  intro k v rest code b r hcode hb _ ih p hp
  rcases mem_ainsert.mp hp with h1 | rfl
  · obtain ⟨k', v', hm, h2, h3⟩ := ih p h1.1
    exact ⟨k', v', List.mem_cons_of_mem _ hm, h2, h3⟩
  · exact ⟨k, v, List.mem_cons_self, hcode, hb⟩

/-- **nothing of the file is dropped, nothing is invented**: an accepted table binds exactly the codes named in the file,
    each once; and an entry whose code no other entry of the table names is bound to the conversion of its own value -/
theorem C10_table_complete {α β} (table : List (String × Nat)) (f : α → Outcome β) :
    ∀ (l : List (String × α)) (r : List (Nat × β)), convTable table f l = .ok r →
      (akeys r).Nodup ∧
      (∀ c, c ∈ akeys r ↔ ∃ e ∈ l, keyToEvCode e.1 table = some c) ∧
      (∀ e ∈ l, ∀ c, keyToEvCode e.1 table = some c →
        (∀ e' ∈ l, keyToEvCode e'.1 table = some c → e' = e) → ∃ b, f e.2 = .ok b ∧ alookup c r = some b) := by
  refine convTable_induction ⟨List.nodup_nil, fun c => by simp [akeys], fun e he => nomatch he⟩ ?_
  intro k v rest code b r hcode hb _ ⟨i1, i2, i3⟩
  refine ⟨nodup_akeys_ainsert i1, ?_, ?_⟩
  · intro c
    rw [mem_akeys_ainsert, i2 c]
    constructor
    · rintro (⟨e, he, hc⟩ | rfl)
      · exact ⟨e, List.mem_cons_of_mem _ he, hc⟩
      · exact ⟨(k, v), List.mem_cons_self, hcode⟩
    · rintro ⟨e, he, hc⟩
      rcases List.mem_cons.mp he with rfl | he
      · exact .inr (Option.some.inj (hcode.symm.trans hc)).symm
      · exact .inl ⟨e, he, hc⟩
  · intro e he c hc huniq
    by_cases hcc : c = code
    · -- the head entry names `c` too, so by uniqueness it is `e`
      subst hcc
      cases huniq (k, v) List.mem_cons_self hcode
      exact ⟨b, hb, alookup_ainsert_self⟩
    · rcases List.mem_cons.mp he with rfl | he'
      · exact absurd (Option.some.inj (hc.symm.trans hcode)) hcc
      · obtain ⟨b', hb', hl⟩ := i3 e he' c hc fun e' he'' => huniq e' (List.mem_cons_of_mem _ he'')
        exact ⟨b', hb', by rw [alookup_ainsert_ne hcc]; exact hl⟩

theorem alookup_filter_sub {β : Type} (acc : List ((Sub × Code) × β)) (sub s : Sub) (c : Code) :
    alookup (s, c) (acc.filter (fun p => p.1.1 ≠ sub)) = if s = sub then none else alookup (s, c) acc := by
  refine (alookup_filter (fun x : Sub × Code => decide (x.1 ≠ sub)) (s, c) acc).trans ?_
  by_cases h : s = sub <;> simp [h]

theorem alookup_map_sub {β : Type} (tmp : List (Nat × β)) (sub s : Sub) (c : Code) :
    alookup (s, c) (tmp.map (fun p => ((sub, p.1), p.2))) = if s = sub then alookup c tmp else none := by
  induction tmp with
  | nil => simp [alookup]
  | cons p r ih =>
    rw [List.map_cons, alookup_cons, alookup_cons, ih]
    by_cases h1 : s = sub
    · subst h1; simp
    · simp [h1, Ne.symm h1]

/-- look-up after the table of sub-handler `sub` has been replaced by `tmp` -/
theorem lookup_subStep {β : Type} (acc : List ((Sub × Code) × β)) (sub : Sub) (tmp : List (Nat × β)) (s : Sub) (c : Code) :
    alookup (s, c) (acc.filter (fun p => p.1.1 ≠ sub) ++ tmp.map (fun p => ((sub, p.1), p.2))) =
      if s = sub then alookup c tmp else alookup (s, c) acc := by
  rw [alookup_append, alookup_filter_sub, alookup_map_sub]
  by_cases h1 : s = sub
  · simp [h1]
  · simp only [h1, if_false]
    cases alookup (s, c) acc <;> rfl

/-- for keys an empty table leaves the sub-handler's bindings as they were -/
theorem lookup_keysStep (acc : List ((Sub × Code) × Key)) (sub : Sub) (tmp : List (Nat × Key)) (s : Sub) (c : Code) :
    alookup (s, c)
        (if tmp.isEmpty then acc else acc.filter (fun p => p.1.1 ≠ sub) ++ tmp.map (fun p => ((sub, p.1), p.2))) =
      if tmp.isEmpty then alookup (s, c) acc else if s = sub then alookup c tmp else alookup (s, c) acc := by
  split
  · rfl
  · exact lookup_subStep acc sub tmp s c

theorem convKeysSubs_spec : ∀ (ks : List TKeys) (acc midi : List ((Sub × Code) × Key)),
    (ks.map (·.sub)).Nodup → convKeysSubs ks acc = .ok midi →
      (∀ s c, s ∉ ks.map (·.sub) → alookup (s, c) midi = alookup (s, c) acc) ∧
      (∀ k ∈ ks, ∃ tmp, convTable Gen.kEYFromString convKey k.map = .ok tmp ∧
        ∀ c, alookup (k.sub, c) midi = if tmp.isEmpty then alookup (k.sub, c) acc else alookup c tmp) := by
  intro ks
  induction ks with
  | nil =>
    intro acc midi _ h
    simp only [convKeysSubs, Outcome.ok.injEq] at h; subst h
    exact ⟨fun _ _ _ => rfl, by intro k hk; cases hk⟩
  | cons k r ih =>
    intro acc midi hnd h
    simp only [convKeysSubs] at h
    simp only [List.map_cons, List.nodup_cons] at hnd
    split at h
    · rename_i tmp htmp
      obtain ⟨i1, i2⟩ := ih _ _ hnd.2 h
      constructor
      · intro s c hs
        simp only [List.map_cons, List.mem_cons, not_or] at hs
        rw [i1 s c hs.2, lookup_keysStep, if_neg hs.1, ite_self]
      · intro k' hk'
        rcases List.mem_cons.mp hk' with rfl | hk'
        · exact ⟨tmp, htmp, fun c => by rw [i1 k'.sub c hnd.1, lookup_keysStep, if_pos rfl]⟩
        · obtain ⟨tmp', h1, h2⟩ := i2 k' hk'
          have hne : k'.sub ≠ k.sub := fun e => hnd.1 (e ▸ List.mem_map.mpr ⟨k', hk', rfl⟩)
          exact ⟨tmp', h1, fun c => by rw [h2 c, lookup_keysStep, if_neg hne, ite_self]⟩
    · cases h
    · cases h

/-- **every key line of the file is in the accepted mapping**: in a mapping whose key tables have pairwise distinct
    sub-handler names, a line `name = "note[,offset]"` of the table of sub-handler `sub`, whose key code no other line of
    that table names, is bound under `(sub, code)` to exactly the conversion of its value -/
theorem C10_mapping_keys_complete (ks : List TKeys) (midi : List ((Sub × Code) × Key))
    (hnd : (ks.map (·.sub)).Nodup) (h : convKeysSubs ks [] = .ok midi)
    (k : TKeys) (hk : k ∈ ks) (e : String × String) (he : e ∈ k.map) (c : Code)
    (hc : keyToEvCode e.1 Gen.kEYFromString = some c)
    (huniq : ∀ e' ∈ k.map, keyToEvCode e'.1 Gen.kEYFromString = some c → e' = e) :
    ∃ key, convKey e.2 = .ok key ∧ alookup (k.sub, c) midi = some key := by
  obtain ⟨-, i2⟩ := convKeysSubs_spec ks [] midi hnd h
  obtain ⟨tmp, htmp, hm⟩ := i2 k hk
  obtain ⟨-, -, t3⟩ := C10_table_complete Gen.kEYFromString convKey k.map tmp htmp
  obtain ⟨key, hkey, hl⟩ := t3 e he c hc huniq
  refine ⟨key, hkey, ?_⟩
  rw [hm c]
  -- the table binds `c`, so it is not empty
  cases tmp with
  | nil => cases hl
  | cons _ _ => exact hl

/-- **and nothing else** (sub-handler names again pairwise distinct): a binding `(sub, code) ↦ key` of the accepted mapping
    comes from a line of the table of that sub-handler -/
theorem C10_mapping_keys_sound (ks : List TKeys) (midi : List ((Sub × Code) × Key))
    (hnd : (ks.map (·.sub)).Nodup) (h : convKeysSubs ks [] = .ok midi) (s : Sub) (c : Code) (key : Key)
    (hl : alookup (s, c) midi = some key) :
    ∃ k ∈ ks, k.sub = s ∧ ∃ e ∈ k.map, keyToEvCode e.1 Gen.kEYFromString = some c ∧ convKey e.2 = .ok key := by
  obtain ⟨i1, i2⟩ := convKeysSubs_spec ks [] midi hnd h
  by_cases hs : s ∈ ks.map (·.sub)
  · obtain ⟨k, hk, rfl⟩ := List.mem_map.mp hs
    obtain ⟨tmp, htmp, hm⟩ := i2 k hk
    rw [hm c] at hl
    split at hl
    · cases hl
    · obtain ⟨kk, v, hmem, h2, h3⟩ := C10_table_values Gen.kEYFromString convKey k.map tmp htmp (c, key) (alookup_mem hl)
      exact ⟨k, hk, rfl, (kk, v), hmem, h2, h3⟩
  · rw [i1 s c hs] at hl; cases hl

theorem convAnalogSubs_spec : ∀ (as : List TAnalogSub) (acc res : AnalogAcc),
    (as.map (·.sub)).Nodup → convAnalogSubs as acc = .ok res →
      (∀ s c, s ∉ as.map (·.sub) → alookup (s, c) res.analog = alookup (s, c) acc.analog ∧
        alookup (s, c) res.dz = alookup (s, c) acc.dz) ∧
      (∀ s, s ∉ as.map (·.sub) → alookup s res.defDz = alookup s acc.defDz) ∧
      (∀ a ∈ as, ∃ tmp dzs, convTable Gen.aBSFromString convAnalog a.map = .ok tmp ∧
        convTable Gen.aBSFromString (fun (z : Rat) => (Outcome.ok z : Outcome Rat)) a.dz = .ok dzs ∧
        (∀ c, alookup (a.sub, c) res.analog = alookup c tmp) ∧ (∀ c, alookup (a.sub, c) res.dz = alookup c dzs) ∧
        alookup a.sub res.defDz = some a.defDz) := by
  intro as
  induction as with
  | nil =>
    intro acc res _ h
    simp only [convAnalogSubs, Outcome.ok.injEq] at h; subst h
    exact ⟨fun _ _ _ => ⟨rfl, rfl⟩, fun _ _ => rfl, by intro a ha; cases ha⟩
  | cons a r ih =>
    intro acc res hnd h
    simp only [convAnalogSubs] at h
    simp only [List.map_cons, List.nodup_cons] at hnd
    split at h
    · rename_i tmp htmp
      split at h
      · rename_i dzs hdzs
        obtain ⟨i1, i2, i3⟩ := ih _ _ hnd.2 h
        refine ⟨?_, ?_, ?_⟩
        · intro s c hs
          simp only [List.map_cons, List.mem_cons, not_or] at hs
          rw [(i1 s c hs.2).1, (i1 s c hs.2).2, lookup_subStep, lookup_subStep, if_neg hs.1, if_neg hs.1]
          exact ⟨rfl, rfl⟩
        · intro s hs
          simp only [List.map_cons, List.mem_cons, not_or] at hs
          rw [i2 s hs.2]
          exact alookup_ainsert_ne hs.1
        · intro a' ha'
          rcases List.mem_cons.mp ha' with rfl | ha'
          · refine ⟨tmp, dzs, htmp, hdzs, fun c => ?_, fun c => ?_, ?_⟩
            · rw [(i1 a'.sub c hnd.1).1, lookup_subStep, if_pos rfl]
            · rw [(i1 a'.sub c hnd.1).2, lookup_subStep, if_pos rfl]
            · rw [i2 a'.sub hnd.1]
              exact alookup_ainsert_self
          · exact i3 a' ha'
      · cases h
      · cases h
    · cases h
    · cases h

/-- **every axis line of the file is in the accepted mapping** (axis tables with pairwise distinct sub-handler names): an
    axis named once in its table is bound under `(sub, code)` to the conversion of its own inline table; the deadzone
    entries and the per-sub-handler default deadzone likewise -/
theorem C10_mapping_axes_complete (as : List TAnalogSub) (res : AnalogAcc)
    (hnd : (as.map (·.sub)).Nodup) (h : convAnalogSubs as {} = .ok res) (a : TAnalogSub) (ha : a ∈ as) :
    (∀ e ∈ a.map, ∀ c, keyToEvCode e.1 Gen.aBSFromString = some c →
      (∀ e' ∈ a.map, keyToEvCode e'.1 Gen.aBSFromString = some c → e' = e) →
      ∃ x, convAnalog e.2 = .ok x ∧ alookup (a.sub, c) res.analog = some x) ∧
    (∀ e ∈ a.dz, ∀ c, keyToEvCode e.1 Gen.aBSFromString = some c →
      (∀ e' ∈ a.dz, keyToEvCode e'.1 Gen.aBSFromString = some c → e' = e) → alookup (a.sub, c) res.dz = some e.2) ∧
    alookup a.sub res.defDz = some a.defDz := by
  obtain ⟨-, -, i3⟩ := convAnalogSubs_spec as {} res hnd h
  obtain ⟨tmp, dzs, htmp, hdzs, l1, l2, l3⟩ := i3 a ha
  refine ⟨?_, ?_, l3⟩
  · intro e he c hc hu
    obtain ⟨-, -, t3⟩ := C10_table_complete Gen.aBSFromString convAnalog a.map tmp htmp
    obtain ⟨x, hx, hl⟩ := t3 e he c hc hu
    exact ⟨x, hx, by rw [l1 c]; exact hl⟩
  · intro e he c hc hu
    obtain ⟨-, -, t3⟩ := C10_table_complete Gen.aBSFromString (fun (z : Rat) => (Outcome.ok z : Outcome Rat)) a.dz dzs hdzs
    obtain ⟨x, hx, hl⟩ := t3 e he c hc hu
    simp only [Outcome.ok.injEq] at hx; subst hx
    rw [l2 c]; exact hl

/-- a table with a key name that is not known, or a value the entry conversion (one that never panics) rejects, is rejected
    as a whole -/
theorem C10_table_rejects {α β} (table : List (String × Nat)) (f : α → Outcome β) (hf : ∀ a, f a ≠ .panic)
    (l : List (String × α)) (hbad : ∃ e ∈ l, keyToEvCode e.1 table = none ∨ f e.2 = .err) :
    convTable table f l = .err := by
  have hall : ∀ l r, convTable table f l = .ok r → ∀ e ∈ l, keyToEvCode e.1 table ≠ none ∧ f e.2 ≠ .err := by
    refine convTable_induction (fun e he => nomatch he) ?_
    intro k v rest code b r hcode hb _ ih e he
    rcases List.mem_cons.mp he with rfl | he
    · simp [hcode, hb]
    · exact ih e he
  -- no entry conversion panics, so the table does not either: it is rejected unless accepted
  cases hc : convTable table f l with
  | err => rfl
  | panic => exact absurd hc (C09.convTable_total table f hf l)
  | ok r =>
    obtain ⟨e, he, hor⟩ := hbad
    exact absurd hor (not_or.mpr (hall l r hc e he))

theorem convKeysSubs_ok (l : List TKeys) : ∀ (acc r : List ((Sub × Code) × Key)),
    (∀ p ∈ acc, keyOk p.2 = true) → convKeysSubs l acc = .ok r → ∀ p ∈ r, keyOk p.2 = true := by
  induction l with
  | nil => intro acc r ha h; simp only [convKeysSubs, Outcome.ok.injEq] at h; subst h; exact ha
  | cons k rest ih =>
    intro acc r ha h
    simp only [convKeysSubs] at h
    split at h
    · rename_i tmp htmp
      refine ih _ r ?_ h
      intro p hp
      split at hp
      · exact ha p hp
      · rcases List.mem_append.mp hp with h1 | h1
        · exact ha p (List.mem_filter.mp h1).1
        · obtain ⟨q, hq, rfl⟩ := List.mem_map.mp h1
          obtain ⟨k', v', -, -, h3⟩ := C10_table_values _ _ _ _ htmp q hq
          exact convKey_ok h3
    · cases h
    · cases h

theorem convAnalogSubs_ok (l : List TAnalogSub) : ∀ (acc r : AnalogAcc),
    (∀ p ∈ acc.analog, analogOk p.2 = true) → convAnalogSubs l acc = .ok r → ∀ p ∈ r.analog, analogOk p.2 = true := by
  induction l with
  | nil => intro acc r ha h; simp only [convAnalogSubs, Outcome.ok.injEq] at h; subst h; exact ha
  | cons a rest ih =>
    intro acc r ha h
    simp only [convAnalogSubs] at h
    split at h
    · rename_i tmp htmp
      split at h
      · refine ih _ r ?_ h
        intro p hp
        simp only at hp
        rcases List.mem_append.mp hp with h1 | h1
        · exact ha p (List.mem_filter.mp h1).1
        · obtain ⟨q, hq, rfl⟩ := List.mem_map.mp h1
          obtain ⟨k', v', -, -, h3⟩ := C10_table_values _ _ _ _ htmp q hq
          exact convAnalog_ok h3
      · cases h
      · cases h
    · cases h
    · cases h

theorem convMapping_ok {m : TMapping} {x : Mapping} (h : convMapping m = .ok x) : mappingOk x = true ∧ x.name = m.name := by
  unfold convMapping at h
  repeat' split at h
  all_goals cases h
  rename_i midi hmidi _ a ha
  refine ⟨?_, rfl⟩
  have k1 := convKeysSubs_ok m.keys [] midi (fun p hp => nomatch hp) hmidi
  have k2 := convAnalogSubs_ok m.analog {} a (fun p hp => nomatch hp) ha
  simp only [mappingOk, Bool.and_eq_true, List.all_eq_true, Bool.decide_and, decide_eq_true_eq]
  exact ⟨k1, k2⟩

theorem convMappings_ok (l : List TMapping) : ∀ r, convMappings l = .ok r →
    (∀ m ∈ r, mappingOk m = true) ∧ r.map (·.name) = l.map (·.name) := by
  induction l with
  | nil => intro r h; simp only [convMappings, Outcome.ok.injEq] at h; subst h; exact ⟨fun m hm => (by cases hm), rfl⟩
  | cons m rest ih =>
    intro r h
    simp only [convMappings] at h
    repeat' split at h
    all_goals cases h
    rename_i x hx _ l' hl'
    obtain ⟨i1, i2⟩ := ih l' hl'
    obtain ⟨c1, c2⟩ := convMapping_ok hx
    refine ⟨?_, by simp [c2, i2]⟩
    intro y hy
    rcases List.mem_cons.mp hy with rfl | e
    · exact c1
    · exact i1 y e

theorem lastIndexOf_lt {name : String} {ms : List Mapping} {i : Nat} (h : lastIndexOf name ms = some i) :
    i < ms.length ∧ ∃ m, ms[i]? = some m ∧ m.name = name := by
  unfold lastIndexOf at h
  cases hl : (ms.zipIdx.filter (fun p => p.1.name = name)).getLast? with
  | none => rw [hl] at h; cases h
  | some q =>
    rw [hl] at h
    simp only [Option.map_some, Option.some.injEq] at h
    have hm := List.mem_of_getLast? hl
    obtain ⟨hz, hn⟩ := List.mem_filter.mp hm
    obtain ⟨m, j⟩ := q
    simp only at h; subst h
    have := List.mem_zipIdx_iff_getElem?.mp hz
    simp only at this
    exact ⟨(List.getElem?_eq_some_iff.mp this).1, m, this, by simpa using hn⟩

/-- the one inversion of `convert`: every test an accepted structure passed, and the result assembled from the parts -/
theorem convert_ok {t : TomlCfg} {c : PConfig} (h : convert t = .ok c) :
    ∃ maps actions mode idx ex, convMappings t.maps = .ok maps ∧
      convTable Gen.kEYFromString (fun (s : String) => match supportedAction s with
        | some a => (Outcome.ok a : Outcome Action) | none => .err) t.actions = .ok actions ∧
      supportedMode t.mode = some mode ∧ lastIndexOf t.defMap maps = some idx ∧ convExit t.exitSeq = .ok ex ∧
      ¬ (t.defVel < 0 ∨ t.defVel > 127) ∧ ¬ (t.defCh < 1 ∨ t.defCh > 16) ∧
      c = { id := (t.bus, t.vendor, t.product, t.version), uniq := t.uniq,
            cfg := { maps := maps, actions := actions, exitSeq := ex, mode := mode, defOct := t.defOct,
                     defSemi := t.defSemi, defCh := t.defCh, defMap := idx,
                     vel := if t.defVel = 0 then 64 else t.defVel, axes := [] },
            colors := t.colors.map toColor } := by
  unfold convert at h
  generalize (if t.defVel = 0 then 64 else t.defVel) = vel at h ⊢
  repeat' split at h
  all_goals cases h
  -- the one accepting branch: each conjunct is a hypothesis of the walk
  exact ⟨_, _, _, _, _, ‹_›, ‹_›, ‹_›, ‹_›, ‹_›, ‹_›, ‹_›, rfl⟩

/-- **in range**: whatever is accepted satisfies `Accepted` -/
theorem C10_in_range {t : TomlCfg} {c : PConfig} (h : convert t = .ok c) : Accepted c.cfg = true := by
  obtain ⟨maps, actions, mode, idx, ex, hmaps, -, -, hidx, -, hv, hc, rfl⟩ := convert_ok h
  have a1 : maps.all mappingOk = true := List.all_eq_true.mpr (convMappings_ok _ _ hmaps).1
  have a2 := (lastIndexOf_lt hidx).1
  simp only [Accepted, a1, decide_eq_true_eq]
  refine ⟨trivial, a2, by omega, by omega, ?_, ?_⟩ <;> split <;> omega

/-- **scalars**: mode, exit sequence, identifier, defaults and colours are what the structure says -/
theorem C10_scalars {t : TomlCfg} {c : PConfig} (h : convert t = .ok c) :
    supportedMode t.mode = some c.cfg.mode ∧ convExit t.exitSeq = .ok c.cfg.exitSeq ∧
    c.id = (t.bus, t.vendor, t.product, t.version) ∧ c.uniq = t.uniq ∧
    c.cfg.defOct = t.defOct ∧ c.cfg.defSemi = t.defSemi ∧ c.cfg.defCh = t.defCh ∧
    c.cfg.vel = (if t.defVel = 0 then 64 else t.defVel) ∧
    lastIndexOf t.defMap c.cfg.maps = some c.cfg.defMap ∧ c.colors = t.colors.map toColor ∧
    c.cfg.maps.map (·.name) = t.maps.map (·.name) := by
  obtain ⟨maps, actions, mode, idx, ex, hmaps, -, hmode, hidx, hex, -, -, rfl⟩ := convert_ok h
  exact ⟨hmode, hex, rfl, rfl, rfl, rfl, rfl, rfl, hidx, rfl, (convMappings_ok _ _ hmaps).2⟩

/-- the exit sequence keeps its order and length: entry by entry it is the key code of the name in the file -/
theorem convExit_spec (l : List String) : ∀ r, convExit l = .ok r →
    r.map some = l.map (fun k => keyToEvCode k Gen.kEYFromString) := by
  induction l with
  | nil => intro r h; simp only [convExit, Outcome.ok.injEq] at h; subst h; rfl
  | cons k rest ih =>
    intro r h
    simp only [convExit] at h
    repeat' split at h
    all_goals cases h
    rename_i c hc _ l' hl'
    simp only [List.map_cons, hc, ih l' hl']

/-- `convert` never panics: what is not accepted is an error -/
theorem convert_err_of {t : TomlCfg} (h : ∀ c, convert t ≠ .ok c) : convert t = .err := by
  cases hc : convert t with
  | err => rfl
  | panic => exact absurd hc (C09.C09_convert_total t)
  | ok c => exact absurd hc (h c)

theorem C10_rejects_mode (t : TomlCfg) (h : supportedMode t.mode = none) : convert t = .err :=
  convert_err_of fun _ hc => by
    obtain ⟨_, _, _, _, _, -, -, hmode, -, -, -, -, -⟩ := convert_ok hc
    rw [h] at hmode; cases hmode

theorem C10_rejects_channel (t : TomlCfg) (h : t.defCh < 1 ∨ t.defCh > 16) : convert t = .err :=
  convert_err_of fun _ hc => by
    obtain ⟨_, _, _, _, _, -, -, -, -, -, -, hch, -⟩ := convert_ok hc
    exact hch h

theorem C10_rejects_velocity (t : TomlCfg) (h : t.defVel < 0 ∨ t.defVel > 127) : convert t = .err :=
  convert_err_of fun _ hc => by
    obtain ⟨_, _, _, _, _, -, -, -, -, -, hv, -, -⟩ := convert_ok hc
    exact hv h

theorem C10_rejects_default_mapping (t : TomlCfg) (h : t.defMap ∉ t.maps.map (·.name)) : convert t = .err :=
  convert_err_of fun _ hc => by
    obtain ⟨maps, _, _, idx, _, hmaps, -, -, hidx, -, -, -, -⟩ := convert_ok hc
    obtain ⟨-, m, hm, hn⟩ := lastIndexOf_lt hidx
    apply h
    rw [← (convMappings_ok _ _ hmaps).2, ← hn]
    exact List.mem_map_of_mem (List.mem_of_getElem? hm)

/-- an unknown key name or an unsupported action in the action table -/
theorem C10_rejects_action_table (t : TomlCfg)
    (h : ∃ e ∈ t.actions, keyToEvCode e.1 Gen.kEYFromString = none ∨ supportedAction e.2 = none) : convert t = .err :=
  convert_err_of fun _ hc => by
    obtain ⟨_, _, _, _, _, -, hact, -, -, -, -, -, -⟩ := convert_ok hc
    obtain ⟨e, he, hor⟩ := h
    rw [C10_table_rejects _ _ (by intro s; split <;> simp) _ ⟨e, he, hor.imp id fun h1 => by simp only [h1]⟩] at hact
    cases hact

/-! ### what a key entry means -/

example : convKey "60" = .ok ⟨60, 0⟩ := by decide
example : convKey "c#3,5" = .ok ⟨61, 5⟩ := by decide
example : convKey "C-2" = .ok ⟨0, 0⟩ := by decide
example : convKey "128" = .err := by decide
example : convKey "60,16" = .err := by decide
example : convKey "H3" = .err := by decide
example : convKey "c20" = .err := by decide
example : convKey "60,1,2" = .err := by decide

/-- an accepted key entry has a note in 0..127 and a channel offset in 0..15; that a third comma-separated part or an
    unknown note name is rejected too is shown by the examples above -/
theorem C10_key_rejects (v : String) (k : Key) (h : convKey v = .ok k) : k.note ≤ 127 ∧ k.chOff ≤ 15 := by
  have := convKey_ok h
  simpa [keyOk] using this

/-! ### non-vacuity -/

def exToml : TomlCfg :=
  { mode := "interrupt", exitSeq := ["KEY_ESC", "x1e"], bus := 3, vendor := 1, product := 2, version := 3, uniq := "",
    defOct := 1, defSemi := -1, defCh := 16, defMap := "Piano", defVel := 0,
    actions := [("KEY_F1", "octave_up")], colors := [0xff8000],
    maps := [⟨"Piano", [⟨"", [("KEY_A", "c3"), ("x10", "61,2")]⟩], []⟩] }

example : (convert exToml).isPanic = false := by
  have := C09.C09_convert_total exToml
  cases h : convert exToml <;> simp_all [Outcome.isPanic]

end Hidi.Props.C10
