/-
  HidiProofs.EngineSimBase — holder counts, what a receiver hears (`quiet` messages never start a sound) and the
  well-formedness of the specification's messages.
-/
import HidiProofs.Messages
namespace Hidi.EngineSim
open Hidi Hidi.Spec

theorem holders_cons (x : Code × (Nat × Nat)) (r : List (Code × (Nat × Nat))) (p : Nat × Nat) :
    holders (x :: r) p = holders r p + if x.2 = p then 1 else 0 := by
  unfold holders
  by_cases e : x.2 = p <;> simp [e]

theorem holders_aerase_of_lookup {l : List (Code × (Nat × Nat))} {c : Code} {q : Nat × Nat}
    (hn : (akeys l).Nodup) (h : alookup c l = some q) (p : Nat × Nat) :
    holders l p = holders (aerase c l) p + (if q = p then 1 else 0) := by
  induction l with
  | nil => cases h
  | cons x r ih =>
    obtain ⟨k', q'⟩ := x
    rw [akeys, List.map_cons, List.nodup_cons] at hn
    rw [alookup_cons] at h
    by_cases hk : k' = c
    · -- the entry is the head, and no other has its key
      rw [if_pos hk] at h
      cases h; subst hk
      rw [holders_cons, aerase, List.filter_cons_of_neg (by simp), ← aerase, aerase_of_not_mem hn.1]
    · rw [if_neg hk] at h
      rw [aerase, List.filter_cons_of_pos (by simpa using hk), ← aerase, holders_cons, holders_cons, ih hn.2 h]
      omega

theorem holders_ainsert {l : List (Code × (Nat × Nat))} {c : Code} {q : Nat × Nat} (p : Nat × Nat) :
    holders (ainsert c q l) p = holders (aerase c l) p + (if q = p then 1 else 0) := by
  unfold holders ainsert
  by_cases e : q = p <;> simp [List.filter_append, e]

theorem holders_pos_iff {l : List (Code × (Nat × Nat))} {p : Nat × Nat} :
    0 < holders l p ↔ ∃ k, (k, p) ∈ l := by
  unfold holders
  rw [List.length_pos_iff_exists_mem]
  constructor
  · rintro ⟨⟨k, q⟩, hx⟩
    simp [List.mem_filter] at hx
    exact ⟨k, by rw [← hx.2]; exact hx.1⟩
  · rintro ⟨k, hk⟩
    exact ⟨(k, p), by simp [List.mem_filter, hk]⟩

/-- a message that is not a sounding Note On never adds to what sounds -/
def quiet : Out → Bool
  | .midi a _ c => !(a / 16 = 9 ∧ c > 0)
  | _ => true

theorem recv_quiet_subset {s : List (Nat × Nat)} {o : Out} (h : quiet o = true) : ∀ p ∈ recv s o, p ∈ s := by
  intro p hp
  cases o with
  | midi a b c =>
    simp only [quiet, Bool.not_eq_true', decide_eq_false_iff_not] at h
    simp only [recv, h, if_false] at hp
    split at hp
    · exact (mem_serase.mp hp).1
    · split at hp
      · exact (List.mem_filter.mp hp).1
      · exact hp
  | sig => exact hp
  | panic => exact hp

theorem sounding_quiet_subset {outs : List Out} : ∀ {s : List (Nat × Nat)}, outs.all quiet = true →
    ∀ p ∈ sounding s outs, p ∈ s := by
  induction outs with
  | nil => intro s _ p hp; exact hp
  | cons o r ih =>
    intro s h p hp
    simp only [List.all_cons, Bool.and_eq_true] at h
    simp only [sounding, List.foldl_cons] at hp
    exact recv_quiet_subset h.1 p (ih h.2 p hp)

theorem sounding_append (s : List (Nat × Nat)) (a b : List Out) :
    sounding s (a ++ b) = sounding (sounding s a) b := by
  simp [sounding, List.foldl_append]

theorem panicMsgs_quiet (ch : Nat) : (panicMsgs ch).all quiet = true := by
  have h2 : ¬ ((0xB0 + ch) / 16 = 9 ∧ 0 > 0) := by omega
  simp [panicMsgs, quiet]

theorem cc_quiet (ch fn v : Nat) (hch : ch < 16) : quiet (ccEvent ch fn v) = true := by
  unfold ccEvent quiet
  have : (stCC ||| ch) % 256 = 0xB0 + ch := st_cc ch hch
  simp only [this]
  have h1 : (0xB0 + ch) / 16 = 11 := by omega
  simp [h1]

theorem pb_quiet (ch : Nat) (v : Rat) (hch : ch < 16) : quiet (pitchBendEvent ch v) = true := by
  unfold pitchBendEvent quiet
  simp only
  have : (stPB ||| ch) % 256 = 0xE0 + ch := st_pb ch hch
  rw [this]
  have h1 : (0xE0 + ch) / 16 = 14 := by omega
  simp [h1]

theorem panicOuts_quiet (ch : Nat) (hch : ch < 16) : (panicOuts ch).all quiet = true := by
  rw [panicOuts_eq hch]; exact panicMsgs_quiet ch

theorem panicMsgs_wf {ch : Nat} (h : ch < 16) : (panicMsgs ch).all wellFormed = true := by
  have h1 : (0xB0 + ch) / 16 = 11 := by omega
  have h2 : (0x80 + ch) / 16 = 8 := by omega
  have h3 : 0xB0 + ch < 256 := by omega
  have h4 : 0x80 + ch < 256 := by omega
  simp [panicMsgs, wellFormed, h1, h2]
  refine ⟨by omega, ?_⟩
  intro x hx; omega

theorem panicMsgs_midi (ch : Nat) : (panicMsgs ch).all isMidi = true := by
  simp [panicMsgs, isMidi]

theorem panicMsgs_isMidi_sig (ch : Nat) : sigCount (panicMsgs ch) = 0 := by
  simp [sigCount, panicMsgs]

theorem panicMsgs_no_panic (ch : Nat) : (panicMsgs ch).contains Out.panic = false := by
  simp [panicMsgs]

theorem noteOnMsg_wf {ch n v : Nat} (hc : ch < 16) (hn : n ≤ 127) (hv : v ≤ 127) :
    wellFormed (noteOnMsg ch n v) = true := by
  have h1 : (0x90 + ch) / 16 = 9 := by omega
  simp [wellFormed, noteOnMsg, h1]; omega

theorem noteOffMsg_wf {ch n : Nat} (hc : ch < 16) (hn : n ≤ 127) :
    wellFormed (noteOffMsg ch n) = true := by
  have h1 : (0x80 + ch) / 16 = 8 := by omega
  simp [wellFormed, noteOffMsg, h1]; omega

end Hidi.EngineSim
