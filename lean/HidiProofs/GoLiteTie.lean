/-
  The model's state inside the translator's state: `toG d o` (Hidi/GoLite.lean) under every GoLite primitive.  Each
  primitive applied to `toG d o` is a `toG d' o'` again or a question about `d`; `simp only [Body.f, golite]` therefore
  runs a generated body on `toG d o` and leaves the model's vocabulary.  A tie `Body.f (toG d o) … = toGR (d.f …) o` is
  proved by splitting first on what the model inspects (`rcases h : …`, `by_cases`), then one such `simp only` with the
  hypotheses and `↓reduceIte`; the sides then agree by `rfl`.  (`split` on the unfolded bodies is far dearer.)

  Also here: the casts between the translator's `Int` values and the model's `Nat`s, and the loops.
-/
import Hidi.GoLite
import HidiProofs.GoLiteAttr
namespace Hidi.BodiesTie
open Hidi Hidi.GoLite

attribute [golite] Id.run pure wrapInt beq_iff_eq bne_iff_ne ne_eq Option.isSome_some Option.isSome_none Bool.not_true
  Bool.not_false Bool.false_eq_true List.contains_iff_mem
-- `↓`: a test `decide p = true` becomes `p` before anything is rewritten inside `p`.  `simp` leaves the instance argument
-- of `decide` as it was, and once the two differ its lemmas no longer apply to the term.  For the same reason the code's
-- expressions are folded into the model's definitions (`transposed_cast`), never the model's unfolded inside a test.
attribute [golite ↓] Bool.or_eq_true Bool.and_eq_true decide_eq_true_eq

section
variable (d : Dev) (o : List Out)

@[golite] theorem toG_cfg : (toG d o).cfg = d.cfg := rfl
@[golite] theorem toG_octave : (toG d o).octave = d.octave := rfl
@[golite] theorem toG_semitone : (toG d o).semitone = d.semitone := rfl
@[golite] theorem toG_channel : (toG d o).channel = d.channel := rfl
@[golite] theorem toG_velocity : (toG d o).velocity = d.velocity := rfl
@[golite] theorem toG_mapping : (toG d o).mapping = d.mapping := rfl
@[golite] theorem toG_learning : (toG d o).learning = d.learning := rfl
@[golite] theorem toG_noteTr' : (toG d o).noteTr = d.noteTr := rfl
@[golite] theorem toG_keyTr : (toG d o).keyTr = d.keyTr := rfl
@[golite] theorem toG_ext : (toG d o).ext = d.ext := rfl
@[golite] theorem toG_ccZeroed : (toG d o).ccZeroed = d.ccZeroed := rfl

@[golite] theorem toG_setNoteTr (v : List (Code × (Nat × Nat))) : (toG d o).setNoteTr v = toG { d with noteTr := v } o := rfl
@[golite] theorem toG_setAnaTr (v : List ((Code × Bool) × (Nat × Nat))) : (toG d o).setAnaTr v = toG { d with anaTr := v } o := rfl
@[golite] theorem toG_setExt (v : List (Nat × Nat)) : (toG d o).setExt v = toG { d with ext := v } o := rfl
@[golite] theorem toG_setLastAna (sub : Sub) (code : Code) (w : Rat) :
    (toG d o).setLastAna sub code w = toG { d with lastAna := ainsert (sub, code) w d.lastAna } o := rfl
@[golite] theorem toG_setZeroed (cc : Nat) (b : Bool) : (toG d o).setZeroedG (cc : Int) b = toG (d.setZeroed cc b) o := rfl
@[golite] theorem toG_goPanic : (toG d o).goPanic = toG { d with dead := true } (o ++ [.panic]) := rfl
@[golite] theorem toG_count (ch note : Nat) : (toG d o).count ch note = d.count ch note := rfl
@[golite] theorem toG_setCount (ch note : Nat) (v : Int) : (toG d o).setCount ch note v = toG (d.setCount ch note v) o := rfl

@[golite] theorem toG_mapIndexOk : (toG d o).mapIndexOk d.mapping = d.curMap.isSome := by
  rw [Bool.eq_iff_iff]
  simp [GSt.mapIndexOk, GSt.nMaps, Dev.curMap, toG]

@[golite] theorem toG_keyLookup (sub : Sub) (code : Code) :
    (toG d o).keyLookup d.mapping sub code =
      match d.curMap with
      | none => (default, false)
      | some m => match alookup (sub, code) m.midi with
        | some k => (k, true)
        | none => (default, false) := rfl

@[golite] theorem toG_analogLookup (sub : Sub) (code : Code) :
    (toG d o).analogLookup d.mapping sub code =
      match d.curMap with
      | none => (default, false)
      | some m => match alookup (sub, code) m.analog with
        | some a => (a, true)
        | none => (default, false) := rfl

@[golite] theorem toG_dzLookup (sub : Sub) (code : Code) :
    (toG d o).dzLookup d.mapping sub code =
      match d.curMap with
      | none => (0, false)
      | some m => match alookup (sub, code) m.dz with
        | some z => (z, true)
        | none => (0, false) := rfl

@[golite] theorem toG_defDzLookup (sub : Sub) :
    (toG d o).defDzLookup d.mapping sub =
      match d.curMap with
      | none => (0, false)
      | some m => match alookup sub m.defDz with
        | some z => (z, true)
        | none => (0, false) := rfl

@[golite] theorem toG_actionLookup (code : Code) :
    (toG d o).actionLookup code = match alookup code d.cfg.actions with | some a => (a, true) | none => (default, false) := rfl

@[golite] theorem toG_noteTrLookup (code : Code) :
    (toG d o).noteTrLookup code = match alookup code d.noteTr with | some v => (v, true) | none => (default, false) := rfl

@[golite] theorem toG_anaTrLookup (id : Code × Bool) :
    (toG d o).anaTrLookup id = match alookup id d.anaTr with | some v => (v, true) | none => (default, false) := rfl

@[golite] theorem toG_lastAnaGet (sub : Sub) (code : Code) :
    (toG d o).lastAnaGet sub code = (alookup (sub, code) d.lastAna).getD 0 := rfl

@[golite] theorem toG_absInfo (node : String) (code : Code) :
    (toG d o).absInfo node code = (alookup (node, code) d.cfg.axes).getD (0, 0) := rfl

end

@[golite] theorem toG_anaTr (d : Dev) (o : List Out) : (toG d o).anaTr = d.anaTr := rfl
@[golite] theorem toG_actTr (d : Dev) (o : List Out := []) : (toG d o).actTr = d.actTr := rfl
@[golite] theorem toG_setActTr (d : Dev) (x : List Action) (o : List Out := []) : (toG d o).setActTr x = toG { d with actTr := x } o := rfl
@[golite] theorem toG_setKeyTr (d : Dev) (x : List Code) (o : List Out := []) : (toG d o).setKeyTr x = toG { d with keyTr := x } o := rfl
@[golite] theorem toG_emit (d : Dev) (o : List Out) (x : Out) : (toG d o).emit x = toG d (o ++ [x]) := rfl
-- `toG_noteTr'` and `toG_count` with nothing sent yet
theorem toG_noteTr (d : Dev) : (toG d).noteTr = d.noteTr := rfl
theorem count_cast (d : Dev) (ch note : Nat) : (toG d).count (ch : Int) (note : Int) = d.count ch note := rfl

theorem toGR_eq (r : Dev × List Out) (o : List Out) : toGR r o = toG r.1 (o ++ r.2) := rfl
theorem toGR_toG (d : Dev) : toG d = toGR (d, []) := rfl
theorem toGR_nil (d : Dev) (o : List Out) : toGR (d, []) o = toG d o := by rw [toGR_eq, List.append_nil]

@[golite] theorem toGR_ite (c : Prop) [Decidable c] (a b : Dev × List Out) (o : List Out) :
    toGR (if c then a else b) o = if c then toGR a o else toGR b o := apply_ite (toGR · o) c a b

theorem wrapU8_eq (x : Int) : wrapU8 x = ((u8 x : Nat) : Int) := by unfold wrapU8 u8; omega
theorem wrapU8_nat (n : Nat) : wrapU8 (n : Int) = ((n % 256 : Nat) : Int) := rfl
theorem cast_mod256 (n : Nat) : ((n % 256 : Nat) : Int) = (n : Int) % 256 := by omega

theorem chan_cast (c off : Nat) : wrapU8 (wrapU8 ((c : Int) + (off : Int)) % (16 : Int)) = ((chanOf c off : Nat) : Int) := by
  unfold wrapU8 chanOf
  omega

@[golite] theorem transposed_cast (d : Dev) (n : Nat) : (n : Int) + d.octave * 12 + d.semitone = d.transposed n := rfl

/-- a transposed note inside 0‥127 survives the conversion to `uint8` -/
theorem u8_cast {n : Int} (h : ¬ (n < 0 ∨ n > 127)) : wrapU8 n = (n.toNat : Int) := by unfold wrapU8; omega

theorem noteEv_cast (ty ch note vel : Nat) : noteEv (ty : Int) (ch : Int) (note : Int) (vel : Int) = noteEvent ty ch note vel := rfl
theorem ccEv_cast (ch cc : Nat) (x : Int) : ccEv (ch : Int) (cc : Int) (wrapU8 x) = ccEvent ch cc (u8 x) := rfl
theorem pbEv_cast (ch : Nat) (v : Rat) : pbEv (ch : Int) v = pitchBendEvent ch v := rfl

theorem evType_cast (a : Nat) :
    evType (a : Int) = ((if a / 16 ≠ 15 ∧ a ≥ 128 then a / 16 * 16 else a : Nat) : Int) := by
  unfold evType
  rw [Int.toNat_natCast]
  split <;> rfl

theorem evChannel_cast (a : Nat) : evChannel (a : Int) = ((a % 16 : Nat) : Int) := rfl

theorem beq_cast (x k : Nat) : (((x : Nat) : Int) == ((k : Nat) : Int)) = decide (x = k) := by
  by_cases h : x = k
  · simp [h]
  · have : ¬ ((x : Int) = (k : Int)) := by omega
    simp [h, this]

theorem foldl_emit {α : Type} (e : GSt → α → Out) (e' : α → Out) (d : Dev) (he : ∀ o a, e (toG d o) a = e' a) (l : List α)
    (o : List Out) : l.foldl (fun g a => g.emit (e g a)) (toG d o) = toG d (o ++ l.map e') := by
  induction l generalizing o with
  | nil => rw [List.foldl_nil, List.map_nil, List.append_nil]
  | cons a r ih => rw [List.foldl_cons, he, toG_emit, ih, List.map_cons, List.append_assoc, List.singleton_append]

theorem foldl_extClear (l : List Nat) : l.foldl (fun (m : List (Nat × Nat)) (i : Nat) => extClearCh m (i : Int)) [] = [] := by
  induction l with
  | nil => rfl
  | cons x r ih => exact ih

/-- a loop whose body is tied to the model's `f`: the model threads the state and collects the messages -/
theorem foldl_tie {α : Type} {F : GSt → α → GSt} {f : Dev → α → Dev × List Out}
    (h : ∀ a d o, F (toG d o) a = toGR (f d a) o) (l : List α) (d : Dev) (o : List Out) :
    l.foldl F (toG d o) =
      toGR (l.foldl (fun (acc : Dev × List Out) a => let (d', o') := f acc.1 a; (d', acc.2 ++ o')) (d, [])) o := by
  -- for the induction: with `p` sent by the loop so far
  suffices hp : ∀ d p, l.foldl F (toG d (o ++ p)) =
      toGR (l.foldl (fun (acc : Dev × List Out) a => let (d', o') := f acc.1 a; (d', acc.2 ++ o')) (d, p)) o by
    rw [← hp d [], List.append_nil]
  induction l with
  | nil => intro d p; rfl
  | cons a r ih => intro d p; rw [List.foldl_cons, List.foldl_cons, h, toGR_eq, List.append_assoc, ih]

end Hidi.BodiesTie
