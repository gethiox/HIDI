/-
  The binary64 transfer function stays within 2⁻¹⁷ of the exact rational one (`Spec.idealShape`).

  Error propagation: every operation is `rnd53` of the exact one with relative error ≤ 2⁻⁵³ (`rnd53_err'`).  The
  deadzone rescale divides by `1 − dz`, so errors are amplified by `1 / (1 − dz)`; two regimes:
   * `1 − dz ≥ 2⁻³²`: amplification ≤ 2³², total error ≤ 2⁻¹⁷;
   * `1 − dz < 2⁻³²`: the exact centred position is a fraction `j / D` with `|j| ≤ D` and `D` one of the axis bounds
     (`centredI_frac`), at most 2³¹ for an `int32` axis, so (`frac_dichotomy`) it is ±1 — an end stop, where the binary64
     position is the same number (`pre_exact`) — or at least 2⁻³¹ away from ±1, inside the deadzone for both
     computations (result exactly 0).
-/
import HidiProofs.AxisLemmas
import Hidi.SpecAxis

namespace Hidi.AxisAccuracy
open Hidi Hidi.Spec Hidi.FloatLemmas Hidi.AxisLemmas

/-- unit round-off of binary64 -/
def U : ℚ := (2:ℚ)^(-53:ℤ)

theorem U_pos : 0 < U := zpow2_pos _
theorem U_val : U = 1 / 9007199254740992 := by unfold U; norm_num [zpow_neg]

theorem rnd_close {q x e B : ℚ} (h : |q - x| ≤ e) (hB : |q| ≤ B) : |rnd53 q - x| ≤ e + B * U := by
  have h1 := rnd53_err' q
  have h2 : |q| * U ≤ B * U := mul_le_mul_of_nonneg_right hB U_pos.le
  calc |rnd53 q - x| = |(rnd53 q - q) + (q - x)| := by ring_nf
    _ ≤ |rnd53 q - q| + |q - x| := abs_add_le _ _
    _ ≤ e + B * U := by unfold U at *; linarith

theorem lin_close {q x V v c e : ℚ} (hc : 0 ≤ c) (hq : q - x = c * (V - v)) (h : |V - v| ≤ e) : |q - x| ≤ c * e := by
  rw [hq, abs_mul, abs_of_nonneg hc]; exact mul_le_mul_of_nonneg_left h hc

theorem hI_div (dz v s : ℚ) : hI dz v / s =
    if v < 0 then (if -dz < v then 0 else (v + dz) / s) else (if v < dz then 0 else (v - dz) / s) := by
  unfold hI; split_ifs <;> simp

theorem idealShape_eq (mn mx : Int) (dzc : Bool) (dz : ℚ) (raw : Int) :
    idealShape mn mx dzc dz raw = hI dz (centreI dzc (normI mn mx raw)) / (1 - dz) := by
  rw [hI_div]; rfl

theorem centredI_frac {mn mx : Int} {dzc : Bool} {dz : ℚ} {raw : Int} (h : axisOK mn mx dzc dz raw = true) :
    ∃ j D : ℤ, 0 < D ∧ (D = mx ∨ D = -mn) ∧ |j| ≤ D ∧ centreI dzc (normI mn mx raw) = j / D := by
  obtain ⟨D, hD, hDm, hr, e⟩ := normI_frac h
  cases dzc with
  | false => exact ⟨raw, D, hD, hDm, hr, by rw [e]; rfl⟩
  | true =>
    have h0 : 0 ≤ raw := by have := (axisOK_iff.mp h).2.2.2.2.1 rfl; have := (axisOK_iff.mp h).2.2.1; omega
    have hDq : (D : ℚ) ≠ 0 := by exact_mod_cast hD.ne'
    refine ⟨2 * raw - D, D, hD, hDm, by rw [abs_le] at hr ⊢; omega, ?_⟩
    simp only [centreI, if_true, e]; push_cast; field_simp

theorem frac_dichotomy {j D : ℤ} (hD : 0 < D) (hj : |j| ≤ D) (hD' : D ≤ 2 ^ 31) :
    |(j : ℚ) / D| = 1 ∨ |(j : ℚ) / D| ≤ 1 - (2:ℚ)^(-31:ℤ) := by
  have hDq : (0 : ℚ) < D := by exact_mod_cast hD
  rw [abs_div, abs_of_pos hDq]
  rcases eq_or_lt_of_le hj with e | hlt
  · left; rw [div_eq_one_iff_eq hDq.ne']; exact_mod_cast e
  · right
    have h1 : ((|j| : ℤ) : ℚ) ≤ D - 1 := by exact_mod_cast (show |j| ≤ D - 1 by omega)
    have h2 : (2:ℚ)^(-31:ℤ) ≤ 1 / D := by
      rw [show (2:ℚ)^(-31:ℤ) = 1 / 2 ^ 31 by norm_num [zpow_neg]]
      exact one_div_le_one_div_of_le hDq (by exact_mod_cast hD')
    have h3 : (2:ℚ)^(-31:ℤ) * D ≤ 1 := by
      have := mul_le_mul_of_nonneg_right h2 hDq.le
      rwa [one_div, inv_mul_cancel₀ hDq.ne'] at this
    rw [div_le_iff₀ hDq]
    push_cast at h1
    linarith

/-- `5 U`: `2 U` for rounding `V · 2` (at most 2 in absolute value), `3 U` for rounding the difference (at most 3) -/
theorem centre_close {dzc : Bool} {V v e : ℚ} (h : |V - v| ≤ e) (hV : |V| ≤ 1) :
    |centre dzc V - centreI dzc v| ≤ 2 * e + 5 * U := by
  have hU := U_pos
  have he : 0 ≤ e := le_trans (abs_nonneg _) h
  cases dzc with
  | false => simp only [centre, centreI, Bool.false_eq_true, if_false]; linarith
  | true =>
    have h2 : |V * 2| ≤ 2 := by rw [abs_le] at hV ⊢; constructor <;> linarith [hV.1, hV.2]
    have h3 := rnd_close (lin_close (c := 2) (by norm_num) (by ring : V * 2 - v * 2 = 2 * (V - v)) h) h2
    have h5 : |rnd53 (V * 2) - 1| ≤ 3 := by
      have := abs_rnd53_le rnd53_two h2
      rw [abs_le] at this ⊢; constructor <;> linarith [this.1, this.2]
    have := rnd_close (lin_close (c := 1) zero_le_one (by ring : rnd53 (V * 2) - 1 - (v * 2 - 1) = 1 * (rnd53 (V * 2) - v * 2)) h3) h5
    simp only [centre, centreI, if_true, fsub, fmul]
    linarith

/-- `8 U`: the normalisation is off by at most `U`, of which the re-centring makes `2 U + 5 U` -/
theorem pre_close {mn mx : Int} {dzc : Bool} {dz : ℚ} {raw : Int} (h : axisOK mn mx dzc dz raw = true) :
    |centre dzc (normRaw mn mx raw) - centreI dzc (normI mn mx raw)| ≤ 8 * U ∧
    |centre dzc (normRaw mn mx raw)| ≤ 1 := by
  have hn := (normI_range h).1
  have hV : |normRaw mn mx raw| ≤ 1 := abs_le.mpr ⟨(normRaw_range h).1, (normRaw_range h).2.1⟩
  have hc : |normRaw mn mx raw - normI mn mx raw| ≤ 0 + 1 * U := by
    rw [normRaw_eq]; exact rnd_close (by rw [sub_self, abs_zero]) hn
  exact ⟨by have := centre_close (dzc := dzc) hc hV; have := U_pos; linarith, abs_le.mpr (centred_range h)⟩

theorem pre_exact {mn mx : Int} {dzc : Bool} {raw : Int} (h : |centreI dzc (normI mn mx raw)| = 1) :
    centre dzc (normRaw mn mx raw) = centreI dzc (normI mn mx raw) := by
  rw [normRaw_eq]
  generalize normI mn mx raw = n at h ⊢
  cases dzc with
  | false =>
    simp only [centre, centreI, Bool.false_eq_true, if_false] at h ⊢
    rcases (abs_eq zero_le_one).mp h with e | e <;> rw [e]
    exacts [rnd53_one, rnd53_neg_one]
  | true =>
    simp only [centreI, if_true] at h ⊢
    rcases (abs_eq zero_le_one).mp h with e | e
    · obtain rfl : n = 1 := by linarith
      rw [rnd53_one, centre_one]; norm_num
    · obtain rfl : n = 0 := by linarith
      rw [rnd53_zero, centre_true_zero]; norm_num

theorem hI_lipschitz {dz a b : ℚ} (h0 : 0 ≤ dz) : |hI dz a - hI dz b| ≤ |a - b| := by
  rcases le_total a b with h | h
  · rw [abs_sub_comm, abs_sub_comm a, abs_of_nonneg (hI_sub h0 h).1, abs_of_nonneg (sub_nonneg.mpr h)]
    exact (hI_sub h0 h).2
  · rw [abs_of_nonneg (hI_sub h0 h).1, abs_of_nonneg (sub_nonneg.mpr h)]
    exact (hI_sub h0 h).2

theorem hI_bound {dz v : ℚ} (h1 : dz < 1) (hv : |v| ≤ 1) : |hI dz v| ≤ 1 - dz := by
  rw [abs_le] at hv
  unfold hI
  split_ifs <;> rw [abs_le] <;> constructor <;> linarith [hv.1, hv.2]

/-- relative errors of at most `u` in the numerator and the denominator of a quotient that is at most 1:
    `N / D - t / s = ((N - t) - t / s * (D - s)) / D`, the numerator is at most `2 s u`, and `2 s ≤ 3 D` -/
theorem div_close {N D t s u : ℚ} (hs : 0 < s) (ht : |t| ≤ s) (hu : 0 ≤ u) (hu3 : u ≤ 1/3)
    (hN : |N - t| ≤ |t| * u) (hD : |D - s| ≤ s * u) : |N / D - t / s| ≤ 3 * u := by
  have hsu : s * u ≤ s * (1/3) := mul_le_mul_of_nonneg_left hu3 hs.le
  have hD3 : 2 * s ≤ 3 * D := by linarith [(abs_le.mp hD).1]
  have hDpos : 0 < D := by linarith
  have hts := abs_div_le_one hs ht
  have e : N / D - t / s = ((N - t) - t / s * (D - s)) / D := by field_simp; ring
  rw [e, abs_div, abs_of_pos hDpos, div_le_iff₀ hDpos]
  calc |(N - t) - t / s * (D - s)| ≤ |N - t| + |t / s| * |D - s| := by rw [← abs_mul]; exact abs_sub _ _
    _ ≤ s * u + 1 * (s * u) :=
      add_le_add (hN.trans (mul_le_mul_of_nonneg_right ht hu)) (mul_le_mul hts hD (abs_nonneg _) zero_le_one)
    _ ≤ 3 * u * D := by have := mul_le_mul_of_nonneg_left hD3 hu; linarith

/-- numerator, denominator and quotient are rounded: `3 U` for the first two (`hQ`), `2 U` for the quotient (at most 2
    in absolute value) -/
theorem quot_close {t s : ℚ} (hs : 0 < s) (ht : |t| ≤ s) :
    |rnd53 (rnd53 t / rnd53 s) - t / s| ≤ 5 * U := by
  have hD : |rnd53 s - s| ≤ s * U := by have := rnd53_err' s; rwa [abs_of_pos hs] at this
  have hQ : |rnd53 t / rnd53 s - t / s| ≤ 3 * U :=
    div_close hs ht U_pos.le (by rw [U_val]; norm_num) (rnd53_err' t) hD
  have hts := abs_div_le_one hs ht
  have hQb : |rnd53 t / rnd53 s| ≤ 2 := by
    have := abs_sub_abs_le_abs_sub (rnd53 t / rnd53 s) (t / s)
    rw [U_val] at hQ; linarith
  have := rnd_close hQ hQb
  linarith

theorem cut_close {dz X x d : ℚ} (h1 : dz < 1) (hV : |X| ≤ 1) (hd : |hI dz X - hI dz x| ≤ d) :
    |dzCut dz X - hI dz x / (1 - dz)| ≤ 5 * U + d / (1 - dz) := by
  have hs : 0 < 1 - dz := by linarith
  have hq := quot_close hs (hI_bound h1 hV)
  have h2 : |hI dz X / (1 - dz) - hI dz x / (1 - dz)| ≤ d / (1 - dz) := by
    rw [← sub_div, abs_div, abs_of_pos hs]; exact div_le_div_of_nonneg_right hd hs.le
  rw [dzCut_eq]
  unfold fdiv fsub
  have := abs_sub_le (rnd53 (rnd53 (hI dz X) / rnd53 (1 - dz))) (hI dz X / (1 - dz)) (hI dz x / (1 - dz))
  linarith

theorem shape_close {mn mx : Int} {dzc : Bool} {dz : ℚ} {raw : Int} (h : axisOK mn mx dzc dz raw = true) :
    |shapeRaw mn mx dzc dz raw - idealShape mn mx dzc dz raw| ≤ 5 * U + 8 * U / (1 - dz) := by
  obtain ⟨_, _, _, _, _, g6, g7⟩ := axisOK_iff.mp h
  obtain ⟨hc, hV⟩ := pre_close h
  rw [shapeRaw_eq, idealShape_eq]
  exact cut_close g7 hV (le_trans (hI_lipschitz g6) hc)

/-- `hmx`, `hmn`: evdev axis values are `int32`; the second regime alone needs them -/
theorem shape_accuracy {mn mx : Int} {dzc : Bool} {dz : ℚ} {raw : Int} (h : axisOK mn mx dzc dz raw = true)
    (hmx : mx ≤ 2 ^ 31) (hmn : -(2 ^ 31) ≤ mn) :
    |shapeRaw mn mx dzc dz raw - idealShape mn mx dzc dz raw| ≤ (2:ℚ)^(-17:ℤ) := by
  obtain ⟨_, _, _, _, _, g6, g7⟩ := axisOK_iff.mp h
  rcases le_or_gt ((2:ℚ)^(-32:ℤ)) (1 - dz) with hL | hL
  · -- amplification by at most 2³²
    have h2 : 8 * U / (1 - dz) ≤ 8 * U / (2:ℚ)^(-32:ℤ) :=
      div_le_div_of_nonneg_left (by have := U_pos; positivity) (zpow2_pos _) hL
    have := shape_close h
    rw [U_val] at h2 this
    norm_num [zpow_neg] at h2 ⊢
    linarith
  · -- the deadzone is within 2⁻³² of 1: the end stops are exact, everything else is 0 on both sides
    obtain ⟨hc, hV⟩ := pre_close h
    have hd : |hI dz (centre dzc (normRaw mn mx raw)) - hI dz (centreI dzc (normI mn mx raw))| ≤ 0 := by
      obtain ⟨j, D, hD, hDm, hj, e⟩ := centredI_frac h
      rcases frac_dichotomy hD hj (by omega) with hx | hx <;> rw [← e] at hx
      · rw [pre_exact hx, sub_self, abs_zero]
      · generalize centre dzc (normRaw mn mx raw) = X at hc hV ⊢
        have hX := abs_sub_abs_le_abs_sub X (centreI dzc (normI mn mx raw))
        rw [U_val] at hc
        norm_num [zpow_neg] at hL hx
        rw [hI_zero (v := X) (by linarith), hI_zero (by linarith), sub_self, abs_zero]
    have := cut_close g7 hV hd
    rw [shapeRaw_eq, idealShape_eq]
    rw [zero_div, U_val] at this
    norm_num [zpow_neg]
    linarith

end Hidi.AxisAccuracy
