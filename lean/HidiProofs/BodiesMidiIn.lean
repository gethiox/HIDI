/-
  The regenerated body of the MIDI-input tracker (`case ev := <-d.midiIn:` of `handleInputEvents`, events.go) computes
  what the model's `Dev.midiIn` computes.  Kept apart from `Bodies.lean` (the key path) so that a change there does not
  touch C17's obligation and vice versa.
-/
import Hidi.Gen.Bodies
import HidiProofs.GoLiteTie
namespace Hidi.BodiesTie
open Hidi Hidi.GoLite Hidi.Gen

theorem midiIn_tie (d : Dev) (a b c : Nat) (o : List Out := []) :
    Body.midiInBody (toG d o) (a : Int) (b : Int) (c : Int) = toG (d.midiIn a b c) o := by
  have h0 : ((c : Int) = 0) = (c = 0) := by rw [Int.natCast_eq_zero]
  simp only [Body.midiInBody, Dev.midiIn, golite, evType_cast, evChannel_cast, Int.toNat_natCast, Int.natCast_inj, h0, Int.reduceGT,
    true_and, apply_ite (toG · o)]

end Hidi.BodiesTie
