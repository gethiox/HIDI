/-
  The binary64 rounding model of `Hidi/Float.lean` is written in core Lean; `pow2_eq`, `rabs_eq`, `roundNE_eq`,
  `ftrunc_eq`, `fround_eq` restate it in Mathlib's vocabulary (`2^e`, `|q|`, `⌊q⌋`).  Where a lemma exists twice, the
  primed one is stated in that vocabulary and is the one proofs use; the unprimed one says the same with `pow2` / `rabs`.
-/
import Mathlib.Tactic.Ring
import Mathlib.Tactic.Linarith
import Mathlib.Tactic.Positivity
import Mathlib.Tactic.FieldSimp
import Mathlib.Tactic.NormNum
import Mathlib.Data.Rat.Floor
import Mathlib.Algebra.Order.Floor.Ring
import Hidi.Float

namespace Hidi.FloatLemmas
open Hidi

theorem pow2_eq (e : Int) : pow2 e = (2:ℚ)^e := by
  unfold pow2
  split
  · rename_i h
    obtain ⟨n, rfl⟩ := Int.eq_ofNat_of_zero_le h
    simp
  · rename_i h
    have h' : e ≤ 0 := by omega
    obtain ⟨n, rfl⟩ := Int.exists_eq_neg_ofNat h'
    simp

theorem rabs_eq (q : ℚ) : rabs q = |q| := by
  unfold rabs
  split
  · rename_i h; rw [abs_of_neg h]
  · rename_i h; rw [abs_of_nonneg (not_lt.mp h)]

theorem floor_eq (q : ℚ) : q.floor = ⌊q⌋ := rfl

theorem roundNE_eq (q : ℚ) : roundNE q =
    if q - ⌊q⌋ < 1/2 then ⌊q⌋ else if 1/2 < q - ⌊q⌋ then ⌊q⌋+1 else if ⌊q⌋ % 2 = 0 then ⌊q⌋ else ⌊q⌋+1 := rfl

theorem zpow2_pos (e : ℤ) : (0:ℚ) < 2 ^ e := zpow_pos (by norm_num) e

theorem pow2_pos (e : Int) : 0 < pow2 e := by
  rw [pow2_eq]; exact zpow2_pos e

theorem pow2_add (a b : Int) : pow2 (a + b) = pow2 a * pow2 b := by
  simp only [pow2_eq]; exact zpow_add₀ two_ne_zero a b

theorem roundNE_int (n : Int) : roundNE (n : Rat) = n := by
  rw [roundNE_eq]; simp

theorem roundNE_cases (q : ℚ) :
    (roundNE q = ⌊q⌋ ∧ q - ⌊q⌋ ≤ 1/2) ∨ (roundNE q = ⌊q⌋ + 1 ∧ 1/2 ≤ q - ⌊q⌋) := by
  rw [roundNE_eq]
  split_ifs with h1 h2 h3
  · exact Or.inl ⟨rfl, h1.le⟩
  · exact Or.inr ⟨rfl, h2.le⟩
  · exact Or.inl ⟨rfl, not_lt.mp h2⟩
  · exact Or.inr ⟨rfl, not_lt.mp h1⟩

theorem roundNE_floor_le (q : ℚ) : ⌊q⌋ ≤ roundNE q := by
  rcases roundNE_cases q with h | h <;> omega

theorem roundNE_le_floor_succ (q : ℚ) : roundNE q ≤ ⌊q⌋ + 1 := by
  rcases roundNE_cases q with h | h <;> omega

theorem roundNE_err' (q : Rat) : |((roundNE q : ℤ) : ℚ) - q| ≤ 1/2 := by
  have h1 := Int.floor_le q
  have h2 := Int.lt_floor_add_one q
  rw [abs_le]
  rcases roundNE_cases q with ⟨e, h⟩ | ⟨e, h⟩ <;> rw [e] <;> push_cast <;> constructor <;> linarith

theorem roundNE_err (q : Rat) : rabs ((roundNE q : Rat) - q) ≤ 1/2 := by
  rw [rabs_eq]; exact roundNE_err' q

theorem roundNE_mono {a b : Rat} (h : a ≤ b) : roundNE a ≤ roundNE b := by
  rcases lt_or_eq_of_le (Int.floor_mono h) with hlt | heq
  · calc roundNE a ≤ ⌊a⌋ + 1 := roundNE_le_floor_succ a
      _ ≤ ⌊b⌋ := hlt
      _ ≤ roundNE b := roundNE_floor_le b
  · rcases roundNE_cases a with ⟨ea, ha⟩ | ⟨ea, ha⟩
    · have := roundNE_floor_le b; omega
    · rcases roundNE_cases b with ⟨eb, hb⟩ | ⟨eb, hb⟩
      · -- same floor, `a` rounded up and `b` down: both are on the half, so `a = b`
        rw [show a = b by rw [heq] at ha; linarith]
      · omega

theorem le_roundNE_of_le {n : ℤ} {q : ℚ} (h : (n:ℚ) ≤ q) : n ≤ roundNE q := by
  have := roundNE_mono h; rwa [roundNE_int] at this

theorem roundNE_le_of_le {n : ℤ} {q : ℚ} (h : q ≤ (n:ℚ)) : roundNE q ≤ n := by
  have := roundNE_mono h; rwa [roundNE_int] at this

theorem log2_bounds {n : ℕ} (h : n ≠ 0) : (2:ℚ)^n.log2 ≤ n ∧ (n:ℚ) < 2 * 2^n.log2 := by
  constructor
  · exact_mod_cast Nat.log2_self_le h
  · have := @Nat.lt_log2_self n
    rw [pow_succ'] at this
    exact_mod_cast this

theorem ilog2_spec' {q : Rat} (hq : 0 < q) : (2:ℚ)^(ilog2 q) ≤ q ∧ q < (2:ℚ)^(ilog2 q + 1) := by
  have hnum : 0 < q.num := Rat.num_pos.mpr hq
  obtain ⟨n, hn⟩ := Int.eq_ofNat_of_zero_le hnum.le
  have hn0 : n ≠ 0 := by rintro rfl; simp [hn] at hnum
  have hqe : (n:ℚ) / (q.den : ℚ) = q := by
    conv_rhs => rw [← Rat.num_div_den q, hn]
    simp
  -- `q = n / d` with `A ≤ n < 2 A` and `B ≤ d < 2 B` for powers of two `A`, `B`, so `A / B / 2 < q < A / B * 2`
  obtain ⟨hA1, hA2⟩ := log2_bounds hn0
  obtain ⟨hB1, hB2⟩ := log2_bounds q.den_nz
  have hB : (0:ℚ) < 2^q.den.log2 := by positivity
  have hd : (0:ℚ) < q.den := by exact_mod_cast q.den_pos
  have lo : (2:ℚ)^n.log2 / (2:ℚ)^q.den.log2 / 2 < n / q.den := by
    rw [div_div, mul_comm]; exact div_lt_div₀' hA1 hB2 (by exact_mod_cast Nat.pos_of_ne_zero hn0) hd
  have hi : n / q.den < (2:ℚ)^n.log2 / (2:ℚ)^q.den.log2 * 2 := by
    rw [div_mul_eq_mul_div, mul_comm]; exact div_lt_div₀ hA2 hB1 (by positivity) hB
  have he0 : (2:ℚ)^((q.num.toNat.log2 : Int) - (q.den.log2 : Int)) = (2:ℚ)^n.log2 / (2:ℚ)^q.den.log2 := by
    rw [hn, Int.toNat_natCast, zpow_sub₀ two_ne_zero, zpow_natCast, zpow_natCast]
  rw [hqe] at lo hi
  unfold ilog2
  simp only [pow2_eq, he0]
  split
  · rename_i h
    rw [zpow_add_one₀ two_ne_zero, he0]
    exact ⟨h, hi⟩
  · rename_i h
    rw [sub_add_cancel, zpow_sub_one₀ two_ne_zero, he0, ← div_eq_mul_inv]
    exact ⟨lo.le, not_le.mp h⟩

theorem ilog2_spec {q : Rat} (hq : 0 < q) : pow2 (ilog2 q) ≤ q ∧ q < pow2 (ilog2 q + 1) := by
  simp only [pow2_eq]; exact ilog2_spec' hq

theorem ilog2_unique {q : ℚ} {e : ℤ} (h1 : (2:ℚ)^e ≤ q) (h2 : q < (2:ℚ)^(e+1)) : ilog2 q = e := by
  have hq : 0 < q := lt_of_lt_of_le (zpow2_pos e) h1
  obtain ⟨h3, h4⟩ := ilog2_spec' hq
  have a : e < ilog2 q + 1 := (zpow_lt_zpow_iff_right₀ one_lt_two).mp (lt_of_le_of_lt h1 h4)
  have b : ilog2 q < e + 1 := (zpow_lt_zpow_iff_right₀ one_lt_two).mp (lt_of_le_of_lt h3 h2)
  omega

theorem ilog2_mono {a b : ℚ} (ha : 0 < a) (h : a ≤ b) : ilog2 a ≤ ilog2 b := by
  obtain ⟨h1, h2⟩ := ilog2_spec' ha
  obtain ⟨h3, h4⟩ := ilog2_spec' (lt_of_lt_of_le ha h)
  have : (2:ℚ) ^ ilog2 a < 2 ^ (ilog2 b + 1) := by linarith
  have : ilog2 a < ilog2 b + 1 := (zpow_lt_zpow_iff_right₀ one_lt_two).mp this
  omega

theorem zpow2_split (k e : ℤ) : (2:ℚ)^k * 2^(e - k) = 2^e := by
  rw [← zpow_add₀ two_ne_zero]; congr 1; ring

/-- a power of two as a 53-bit significand times the unit in the last place -/
theorem zpow2_52 (e : ℤ) : (2:ℚ)^e = ((2^52 : ℤ) : ℚ) * 2^(e - 52) := by
  rw [← zpow2_split 52 e]; norm_num

theorem zpow2_53 (e : ℤ) : (2:ℚ)^(e + 1) = ((2^53 : ℤ) : ℚ) * 2^(e - 52) := by
  rw [← zpow2_split 53 (e + 1), show e + 1 - 53 = e - 52 by ring]; norm_num

theorem rnd53_zero : rnd53 0 = 0 := by simp [rnd53]

theorem rnd53_pos_eq {q : ℚ} (hq : 0 < q) :
    rnd53 q = (roundNE (q / 2^(ilog2 q - 52)) : ℚ) * 2^(ilog2 q - 52) := by
  unfold rnd53
  have h1 : q ≠ 0 := hq.ne'
  have h2 : ¬ q < 0 := not_lt.mpr hq.le
  have h3 : rabs q = q := by rw [rabs_eq, abs_of_pos hq]
  simp only [h1, h2, h3, if_false, pow2_eq]

theorem rnd53_neg (q : Rat) : rnd53 (-q) = -rnd53 q := by
  have hr : rabs (-q) = rabs q := by rw [rabs_eq, rabs_eq, abs_neg]
  unfold rnd53
  rw [hr]
  rcases lt_trichotomy q 0 with h | rfl | h
  · rw [if_neg (neg_ne_zero.mpr h.ne), if_neg h.ne, if_neg (by linarith), if_pos h, neg_neg]
  · simp
  · rw [if_neg (neg_ne_zero.mpr h.ne'), if_neg h.ne', if_pos (by linarith), if_neg (by linarith)]

theorem by_sign {P : ℚ → Prop} (zero : P 0) (pos : ∀ q, 0 < q → P q) (neg : ∀ q, P q → P (-q)) (q : ℚ) : P q := by
  rcases lt_trichotomy q 0 with h | rfl | h
  · rw [← neg_neg q]; exact neg _ (pos _ (neg_pos.mpr h))
  · exact zero
  · exact pos q h

theorem scaled_bounds {q : ℚ} (hq : 0 < q) :
    ((2^52 : ℤ) : ℚ) ≤ q / 2^(ilog2 q - 52) ∧ q / 2^(ilog2 q - 52) < ((2^53 : ℤ) : ℚ) := by
  obtain ⟨h1, h2⟩ := ilog2_spec' hq
  have hs := zpow2_pos (ilog2 q - 52)
  rw [le_div_iff₀ hs, div_lt_iff₀ hs, ← zpow2_52, ← zpow2_53]
  exact ⟨h1, h2⟩

theorem sig_bounds {q : ℚ} (hq : 0 < q) :
    2^52 ≤ roundNE (q / 2^(ilog2 q - 52)) ∧ roundNE (q / 2^(ilog2 q - 52)) ≤ 2^53 := by
  obtain ⟨h1, h2⟩ := scaled_bounds hq
  exact ⟨le_roundNE_of_le h1, roundNE_le_of_le h2.le⟩

theorem rnd53_bounds {q : ℚ} (hq : 0 < q) :
    (2:ℚ)^(ilog2 q) ≤ rnd53 q ∧ rnd53 q ≤ (2:ℚ)^(ilog2 q + 1) := by
  obtain ⟨h1, h2⟩ := sig_bounds hq
  have hs := zpow2_pos (ilog2 q - 52)
  rw [rnd53_pos_eq hq, zpow2_52 (ilog2 q), zpow2_53 (ilog2 q)]
  constructor
  · exact mul_le_mul_of_nonneg_right (by exact_mod_cast h1) hs.le
  · exact mul_le_mul_of_nonneg_right (by exact_mod_cast h2) hs.le

theorem rnd53_pos {q : Rat} (h : 0 < q) : 0 < rnd53 q :=
  lt_of_lt_of_le (zpow2_pos _) (rnd53_bounds h).1

theorem rnd53_nonneg {q : Rat} (h : 0 ≤ q) : 0 ≤ rnd53 q := by
  rcases eq_or_lt_of_le h with h | h
  · subst h; rw [rnd53_zero]
  · exact (rnd53_pos h).le

theorem rnd53_nonpos {q : Rat} (h : q ≤ 0) : rnd53 q ≤ 0 := by
  have := rnd53_nonneg (q := -q) (by linarith)
  rw [rnd53_neg] at this; linarith

theorem rnd53_mono_pos {a b : ℚ} (ha : 0 < a) (h : a ≤ b) : rnd53 a ≤ rnd53 b := by
  have hb : 0 < b := lt_of_lt_of_le ha h
  rcases lt_or_eq_of_le (ilog2_mono ha h) with hlt | heq
  · calc rnd53 a ≤ (2:ℚ)^(ilog2 a + 1) := (rnd53_bounds ha).2
      _ ≤ (2:ℚ)^(ilog2 b) := zpow_le_zpow_right₀ one_lt_two.le hlt
      _ ≤ rnd53 b := (rnd53_bounds hb).1
  · rw [rnd53_pos_eq ha, rnd53_pos_eq hb, heq]
    have hs := zpow2_pos (ilog2 b - 52)
    apply mul_le_mul_of_nonneg_right _ hs.le
    have : roundNE (a / 2 ^ (ilog2 b - 52)) ≤ roundNE (b / 2 ^ (ilog2 b - 52)) :=
      roundNE_mono (div_le_div_of_nonneg_right h hs.le)
    exact_mod_cast this

theorem rnd53_mono {a b : Rat} (h : a ≤ b) : rnd53 a ≤ rnd53 b := by
  rcases lt_trichotomy a 0 with ha | ha | ha
  · rcases lt_or_ge b 0 with hb | hb
    · have := rnd53_mono_pos (a := -b) (b := -a) (by linarith) (by linarith)
      rw [rnd53_neg, rnd53_neg] at this; linarith
    · exact le_trans (rnd53_nonpos ha.le) (rnd53_nonneg hb)
  · subst ha; rw [rnd53_zero]; exact rnd53_nonneg h
  · exact rnd53_mono_pos ha h

theorem rnd53_err' (q : Rat) : |rnd53 q - q| ≤ |q| * (2:ℚ)^(-53:ℤ) := by
  induction q using by_sign with
  | zero => simp [rnd53_zero]
  | neg q h => rwa [rnd53_neg, ← neg_sub', abs_neg, abs_neg]
  | pos q hq =>
    -- half a unit in the last place, `1/2 * 2 ^ (ilog2 q - 52)`
    obtain ⟨h1, _⟩ := ilog2_spec' hq
    have hs := zpow2_pos (ilog2 q - 52)
    have e : rnd53 q - q = (roundNE (q / 2^(ilog2 q - 52)) - q / 2^(ilog2 q - 52)) * 2^(ilog2 q - 52) := by
      rw [rnd53_pos_eq hq, sub_mul, div_mul_cancel₀ _ hs.ne']
    rw [e, abs_mul, abs_of_pos hs, abs_of_pos hq]
    calc _ ≤ 1/2 * (2:ℚ)^(ilog2 q - 52) := mul_le_mul_of_nonneg_right (roundNE_err' _) hs.le
      _ = 2^(ilog2 q) * (2:ℚ)^(-53:ℤ) := by rw [zpow2_52 (ilog2 q)]; norm_num [zpow_neg]; ring
      _ ≤ q * (2:ℚ)^(-53:ℤ) := mul_le_mul_of_nonneg_right h1 (zpow2_pos _).le

theorem rnd53_err (q : Rat) : rabs (rnd53 q - q) ≤ rabs q * pow2 (-53) := by
  rw [rabs_eq, rabs_eq, pow2_eq]; exact rnd53_err' q

theorem rnd53_of_rep_pos (m : ℤ) (e : ℤ) (hm0 : 0 < m) (hm : m < 2^53) :
    rnd53 ((m:ℚ) * 2^e) = (m:ℚ) * 2^e := by
  have hq : (0:ℚ) < (m:ℚ) * 2^e := mul_pos (by exact_mod_cast hm0) (zpow2_pos e)
  obtain ⟨h1, -⟩ := ilog2_spec' hq
  rw [rnd53_pos_eq hq]
  generalize ilog2 ((m:ℚ) * 2^e) = E at h1 ⊢
  have hlt : (m:ℚ) * 2^e < 2^(53 + e) := by
    rw [zpow_add₀ two_ne_zero]; exact mul_lt_mul_of_pos_right (by exact_mod_cast hm) (zpow2_pos e)
  have hE : E < 53 + e := (zpow_lt_zpow_iff_right₀ one_lt_two).mp (lt_of_le_of_lt h1 hlt)
  -- the unit in the last place `2 ^ (E - 52)` divides `2 ^ e`: the scaled value is an integer
  obtain ⟨j, hj⟩ := Int.eq_ofNat_of_zero_le (show 0 ≤ e - E + 52 by omega)
  have hs : (m:ℚ) * 2^e = ((m * 2^j : ℤ) : ℚ) * 2^(E-52) := by
    push_cast
    rw [mul_assoc, ← zpow_natCast, ← zpow_add₀ two_ne_zero, ← hj]
    congr 2; ring
  rw [hs, mul_div_cancel_right₀ _ (zpow2_pos _).ne', roundNE_int]

theorem rnd53_of_rep' (m : Int) (e : Int) (hm : m.natAbs < 2 ^ 53) :
    rnd53 ((m : Rat) * 2^e) = (m : Rat) * 2^e := by
  rcases lt_trichotomy m 0 with h | h | h
  · have := rnd53_of_rep_pos (-m) e (by omega) (by omega)
    have e1 : ((-m : ℤ) : ℚ) * 2^e = -((m:ℚ) * 2^e) := by push_cast; ring
    rw [e1, rnd53_neg] at this
    linarith
  · subst h; simp [rnd53_zero]
  · exact rnd53_of_rep_pos m e h (by omega)

theorem rnd53_of_rep (m : Int) (e : Int) (hm : m.natAbs < 2 ^ 53) :
    rnd53 ((m : Rat) * pow2 e) = (m : Rat) * pow2 e := by
  rw [pow2_eq]; exact rnd53_of_rep' m e hm

theorem rnd53_int (n : Int) (h : n.natAbs ≤ 2 ^ 53) : rnd53 (n : Rat) = n := by
  rcases lt_or_eq_of_le h with h | h
  · have := rnd53_of_rep' n 0 h
    simpa using this
  · have h1 := rnd53_of_rep' 1 53 (by norm_num)
    have h2 := rnd53_of_rep' (-1) 53 (by norm_num)
    have : n = 2^53 ∨ n = -2^53 := by omega
    rcases this with rfl | rfl
    · norm_num at h1 ⊢; exact h1
    · norm_num at h2 ⊢; exact h2

theorem rnd53_one : rnd53 1 = 1 := by
  have := rnd53_int 1 (by norm_num); simpa using this

theorem rnd53_half : rnd53 (1/2) = 1/2 := by
  have := rnd53_of_rep' 1 (-1) (by norm_num)
  norm_num at this ⊢; exact this

theorem rnd53_two : rnd53 2 = 2 := by
  have := rnd53_int 2 (by norm_num); simpa using this

theorem rnd53_neg_one : rnd53 (-1) = -1 := by rw [rnd53_neg, rnd53_one]

theorem rnd53_127 : rnd53 127 = 127 := by
  have := rnd53_int 127 (by norm_num); simpa using this

theorem rnd53_16383 : rnd53 16383 = 16383 := by
  have := rnd53_int 16383 (by norm_num); simpa using this

theorem fdiv_self {x : Rat} (hx : x ≠ 0) : fdiv x x = 1 := by
  unfold fdiv; rw [div_self hx, rnd53_one]

theorem rnd53_le_of_le {q b : ℚ} (hb : rnd53 b = b) (h : q ≤ b) : rnd53 q ≤ b := hb ▸ rnd53_mono h

theorem le_rnd53_of_le {q a : ℚ} (ha : rnd53 a = a) (h : a ≤ q) : a ≤ rnd53 q := ha ▸ rnd53_mono h

theorem abs_rnd53_le {q b : ℚ} (hb : rnd53 b = b) (h : |q| ≤ b) : |rnd53 q| ≤ b := by
  rw [abs_le] at h ⊢
  exact ⟨le_rnd53_of_le (by rw [rnd53_neg, hb]) h.1, rnd53_le_of_le hb h.2⟩

theorem rnd53_idem (q : Rat) : rnd53 (rnd53 q) = rnd53 q := by
  induction q using by_sign with
  | zero => simp [rnd53_zero]
  | neg q h => rw [rnd53_neg, rnd53_neg, h]
  | pos q hq =>
    obtain ⟨h1, h2⟩ := sig_bounds hq
    rw [rnd53_pos_eq hq]
    rcases lt_or_eq_of_le h2 with h2 | h2
    · exact rnd53_of_rep_pos _ _ (by omega) h2
    · rw [h2]
      rw [← zpow2_53, ← one_mul ((2:ℚ)^(ilog2 q + 1)), ← Int.cast_one]
      exact rnd53_of_rep_pos 1 _ (by norm_num) (by norm_num)

theorem ftrunc_eq (q : ℚ) : ftrunc q = if q < 0 then -⌊-q⌋ else ⌊q⌋ := rfl
theorem fround_eq (q : ℚ) : fround q = if q < 0 then -⌊-q + 1/2⌋ else ⌊q + 1/2⌋ := rfl

theorem oddExt_mono {f : ℚ → ℤ} (hf : Monotone f) (h0 : ∀ {x}, 0 ≤ x → 0 ≤ f x) {a b : ℚ} (h : a ≤ b) :
    (if a < 0 then -f (-a) else f a) ≤ (if b < 0 then -f (-b) else f b) := by
  split_ifs with ha hb hb
  · have := hf (neg_le_neg h); omega
  · have := h0 (neg_nonneg.mpr ha.le); have := h0 (not_lt.mp hb); omega
  · exfalso; linarith
  · exact hf h

theorem ftrunc_mono {a b : Rat} (h : a ≤ b) : ftrunc a ≤ ftrunc b :=
  oddExt_mono (f := fun x => ⌊x⌋) Int.floor_mono Int.floor_nonneg.mpr h

theorem fround_mono {a b : Rat} (h : a ≤ b) : fround a ≤ fround b :=
  oddExt_mono (f := fun x => ⌊x + 1/2⌋) (fun _ _ h => Int.floor_mono (by linarith))
    (fun h => Int.floor_nonneg.mpr (by linarith)) h

theorem ftrunc_int (n : Int) : ftrunc (n : Rat) = n := by
  rw [ftrunc_eq]
  split_ifs with h
  · have : -(n:ℚ) = ((-n : ℤ) : ℚ) := by push_cast; ring
    rw [this, Int.floor_intCast]; omega
  · exact Int.floor_intCast n

theorem floor_half : ⌊(1/2 : ℚ)⌋ = 0 := by
  rw [Int.floor_eq_iff]; norm_num

theorem fround_int (n : ℤ) : fround (n : ℚ) = n := by
  rw [fround_eq]
  split_ifs with h
  · have : -(n:ℚ) + 1/2 = ((-n : ℤ) : ℚ) + 1/2 := by push_cast; ring
    rw [this, Int.floor_intCast_add, floor_half]; omega
  · rw [Int.floor_intCast_add, floor_half]; omega

theorem fround_eq_floor {q : ℚ} (h : -1/2 < q) : fround q = ⌊q + 1/2⌋ := by
  rw [fround_eq]
  split_ifs with hn
  · rw [Int.floor_eq_zero_iff.mpr ⟨by linarith, by linarith⟩, Int.floor_eq_zero_iff.mpr ⟨by linarith, by linarith⟩]
    rfl
  · rfl

theorem fround_zero : fround 0 = 0 := by
  have := fround_int 0; simpa using this

theorem fround_16383 : fround 16383 = 16383 := by
  have := fround_int 16383; simpa using this

theorem ftrunc_zero : ftrunc 0 = 0 := by
  have := ftrunc_int 0; simpa using this

theorem ftrunc_127 : ftrunc 127 = 127 := by
  have := ftrunc_int 127; simpa using this

end Hidi.FloatLemmas
