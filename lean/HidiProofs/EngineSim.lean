/-
  HidiProofs.EngineSim — on every history without axis events the device model satisfies all
  monitors of `Hidi.Spec` / `Hidi.SpecAxis` (`key_histories_all`): induction over the history with `step_sim`, the axis
  monitor on key-only histories, the disconnect clean-up.
-/
import HidiProofs.EngineSimKey
namespace Hidi.EngineSim
open Hidi Hidi.Spec

def keyOnly : Ev → Bool
  | .abs _ _ _ _ => false
  | _ => true

theorem keyOnly_ne {e : Ev} (h : keyOnly e = true) : ∀ s n c v, e ≠ Ev.abs s n c v := by
  intro s n c v he; subst he; simp [keyOnly] at h

theorem inv_init {cfg : Config} (hacc : Accepted cfg = true) :
    Inv cfg (Dev.init cfg) (Book.init (StObs.ofDev (Dev.init cfg))) := by
  refine ⟨⟨rfl, rfl, rfl, accepted_ch hacc, accepted_defMap hacc, rfl, trivial, trivial, ?_⟩,
    rfl, rfl, rfl, ?_⟩
  · intro p hp; simp [Dev.init] at hp
  · intro _
    refine ⟨rfl, rfl, ⟨?_, ?_, ?_⟩, ?_⟩
    · simp [Dev.init, akeys]
    · intro ch n; simp [Dev.init, Dev.count, alookup, holders]
    · intro p hp; simp [Book.init] at hp
    · intro k hk; simp [Dev.init, akeys] at hk

theorem step_dinv {cfg : Config} {d : Dev} (hd : DInv cfg d) {e : Ev} (hk : keyOnly e = true) : DInv cfg (d.step e).1 :=
  Handlers.step_cases (P := fun r => DInv cfg r.1) d e (fun _ => hd) (fun _ => hd) (fun _ _ _ => hd)
    (fun s c v _ _ => (handleKey_model hd s c v).1) (fun _ _ _ _ h => by subst h; cases hk)
    fun _ _ _ x _ => Kept.dinv (d := d) ⟨rfl, rfl, rfl, rfl, rfl, rfl, rfl, rfl, rfl, rfl⟩ hd

theorem run_dinv {cfg : Config} (evs : List Ev) {d : Dev} (hd : DInv cfg d) (hk : evs.all keyOnly = true) :
    DInv cfg (d.run evs).1 :=
  Handlers.run_induction (P := DInv cfg) (fun _ e he hd => step_dinv hd (List.all_eq_true.mp hk e he)) hd

theorem steps_sim {cfg : Config} (hacc : Accepted cfg = true) :
    ∀ (evs : List Ev) (d : Dev) (b : Book) (i : Nat) (infos : List (Option Nat × Bool)),
      Inv cfg d b → evs.all keyOnly = true → (∀ x ∈ infos, x = (some 0, false)) →
      Inv cfg (modelSteps d evs).2 (checkSteps cfg i b (modelSteps d evs).1 infos).2 ∧
      (checkSteps cfg i b (modelSteps d evs).1 infos).1 = [] := by
  intro evs
  induction evs with
  | nil => intro d b i infos hinv _ _; exact ⟨hinv, rfl⟩
  | cons e es ih =>
    intro d b i infos hinv hk hinfos
    simp only [List.all_cons, Bool.and_eq_true] at hk
    have hhead : infos.headD (some 0, false) = (some 0, false) := by
      cases infos with
      | nil => rfl
      | cons x r => exact hinfos x (List.mem_cons_self)
    obtain ⟨s1, s2⟩ := step_sim hacc hinv i e (keyOnly_ne hk.1)
    obtain ⟨r1, r2⟩ := ih (d.step e).1 _ (i + 1) infos.tail s1 hk.2 fun x hx => hinfos x (List.mem_of_mem_tail hx)
    simp only [modelSteps, checkSteps, hhead]
    exact ⟨r1, by rw [s2, r2]; rfl⟩

theorem abook_key_writes (cfg : Config) (b : ABook) (code : Code) (val : Int) :
    b.key cfg code val = { b with down := (b.key cfg code val).down, nAct := (b.key cfg code val).nAct,
                                  learning := (b.key cfg code val).learning } := by
  let P (r : ABook) : Prop := r = { b with down := r.down, nAct := r.nAct, learning := r.learning }
  show P _
  unfold ABook.key
  refine iteInduction (fun _ => rfl) fun _ => iteInduction (fun _ => rfl) fun _ => ?_
  cases alookup code cfg.actions with
  | none => exact rfl
  | some a =>
    exact iteInduction (fun _ => rfl) fun _ => iteInduction (fun _ => iteInduction (fun _ => rfl) fun _ => rfl) fun _ => rfl

theorem checkAxisSteps_cons {cfg : Config} (i : Nat) (ab : ABook) (st : Step) (r : List Step) (hk : keyOnly st.ev = true) :
    ∃ ab' : ABook, (ab'.aknown = ab.aknown ∧ ab'.apinned = ab.apinned ∧ ab'.samples = ab.samples) ∧
      checkAxisSteps cfg i ab (st :: r) =
        ((checkAxisSteps cfg (i + 1) ab' r).1,
         ⟨if ab'.aknown then some ab'.apinned.length else none, false⟩ :: (checkAxisSteps cfg (i + 1) ab' r).2.1,
         (checkAxisSteps cfg (i + 1) ab' r).2.2) := by
  let upd (b : ABook) : ABook :=
    { b with pre := st.st, dead := ab.dead || st.outs.contains .panic, ccv := st.outs.foldl recvCC ab.ccv }
  cases hev : st.ev with
  | abs s n c v => rw [hev] at hk; cases hk
  | key sub code val =>
    exact ⟨upd (ab.key cfg code val), by rw [abook_key_writes]; exact ⟨rfl, rfl, rfl⟩,
      by simp [checkAxisSteps, hev, isActionAxisStep, upd]⟩
  | syn => exact ⟨upd ab, ⟨rfl, rfl, rfl⟩, by simp [checkAxisSteps, hev, isActionAxisStep, upd]⟩
  | midiIn x y z => exact ⟨upd ab, ⟨rfl, rfl, rfl⟩, by simp [checkAxisSteps, hev, isActionAxisStep, upd]⟩

theorem axis_steps_key {cfg : Config} :
    ∀ (evs : List Ev) (d : Dev) (i : Nat) (ab : ABook), evs.all keyOnly = true →
      ab.aknown = true → ab.apinned = [] → ab.samples = [] →
      (checkAxisSteps cfg i ab (modelSteps d evs).1).1 = [] ∧
      (∀ x ∈ (checkAxisSteps cfg i ab (modelSteps d evs).1).2.1.map (fun i => (i.held, i.actionAxis)), x = (some 0, false)) ∧
      (checkAxisSteps cfg i ab (modelSteps d evs).1).2.2.samples = [] := by
  intro evs
  induction evs with
  | nil => intro d i ab _ _ _ hs; exact ⟨rfl, by simp [modelSteps, checkAxisSteps], hs⟩
  | cons e es ih =>
    intro d i ab hk h1 h2 h3
    simp only [List.all_cons, Bool.and_eq_true] at hk
    obtain ⟨ab', ⟨k1, k2, k3⟩, e'⟩ := checkAxisSteps_cons (cfg := cfg) i ab ⟨e, (d.step e).2, StObs.ofDev (d.step e).1⟩
      (modelSteps (d.step e).1 es).1 hk.1
    obtain ⟨q1, q2, q3⟩ := ih (d.step e).1 (i + 1) ab' hk.2 (k1.trans h1) (k2.trans h2) (k3.trans h3)
    simp only [modelSteps]
    rw [e']
    refine ⟨q1, fun x hx => ?_, q3⟩
    rcases List.mem_cons.mp hx with rfl | hx
    · simp [k1, h1, k2, h2]
    · exact q2 x hx

def offAll (d : Dev) : List Code → Dev × List Out
  | [] => (d, [])
  | c :: l => ((offAll (d.noteOff c).1 l).1, (d.noteOff c).2 ++ (offAll (d.noteOff c).1 l).2)

theorem foldl_offAll (l : List Code) : ∀ (d : Dev) (o0 : List Out),
    l.foldl (fun (acc : Dev × List Out) c => let (d', o) := acc.1.noteOff c; (d', acc.2 ++ o)) (d, o0) =
      ((offAll d l).1, o0 ++ (offAll d l).2) := by
  induction l with
  | nil => intro d o0; simp [offAll]
  | cons c l ih =>
    intro d o0
    simp only [List.foldl_cons, offAll]
    rw [ih]
    simp only [List.append_assoc]

theorem cleanup_eq {cfg : Config} {d : Dev} (hd : DInv cfg d) :
    d.cleanup.2 = (offAll d (akeys d.noteTr)).2 := by
  rw [Handlers.cleanup_alive hd.dead, hd.ana]
  unfold Dev.cleanupWith
  simp only [foldl_offAll, akeys, List.map_nil, List.foldl_nil, List.nil_append, List.append_nil]

theorem offAll_sim {cfg : Config} (l : List Code) : ∀ (d : Dev), DInv cfg d →
      DInv cfg (offAll d l).1 ∧ (offAll d l).2.all okOut = true ∧
      (offAll d l).1.noteTr = l.foldl (fun t c => aerase c t) d.noteTr ∧
      ∀ snd, Core d snd → Core (offAll d l).1 (sounding snd (offAll d l).2) := by
  induction l with
  | nil => intro d hd; exact ⟨hd, rfl, rfl, fun _ hc => hc⟩
  | cons c l ih =>
    intro d hd
    have hstep : DInv cfg (d.noteOff c).1 ∧ (d.noteOff c).2.all okOut = true ∧
        ∀ snd, Core d snd → Core (d.noteOff c).1 (sounding snd (d.noteOff c).2) := by
      rw [noteOff_eq hd]
      cases hk : alookup c d.noteTr with
      | none => exact ⟨hd, rfl, fun _ hc => hc⟩
      | some q =>
        have hw := hd.wf _ (alookup_mem hk)
        exact ⟨hd.released c _ _, releaseOuts_ok _ _ hw.2 hw.1, fun _ hc => hc.released hk cfg.mode hw.2⟩
    obtain ⟨s1, s2, s3⟩ := hstep
    obtain ⟨r1, r2, r3, r4⟩ := ih (d.noteOff c).1 s1
    simp only [offAll, List.foldl_cons]
    refine ⟨r1, ?_, ?_, fun snd hc => ?_⟩
    · rw [List.all_append, s2, r2]; rfl
    · rw [r3, Handlers.noteOff_noteTr]
    · rw [sounding_append]; exact r4 _ (s3 snd hc)

theorem cleanup_sim {cfg : Config} {d : Dev} {b : Book} (hinv : Inv cfg d b) :
    d.cleanup.2.all wellFormed = true ∧ (b.ok = true → sounding b.snd d.cleanup.2 = []) := by
  rw [cleanup_eq hinv.dinv]
  obtain ⟨-, r2, r3, r4⟩ := offAll_sim (akeys d.noteTr) d hinv.dinv
  exact ⟨okOut_wf r2, fun hk => (r4 b.snd (hinv.okp hk).core).silent (r3.trans (foldl_aerase_nil _ _ fun _ h => h))⟩

theorem modelTrace_steps (cfg : Config) (evs : List Ev) (disc : Bool) :
    (modelTrace cfg evs disc).steps = (modelSteps (Dev.init cfg) evs).1 := rfl

/-- on every key-only history of an accepted configuration the model satisfies every monitor of
    `Hidi.Spec` / `Hidi.SpecAxis` — C01, C02, C03, C04, C05, C13, C14, with or without a final disconnect.
    (Octave and semitone are Go `int`s and the model adds and subtracts in ℤ: nothing wraps.) -/
theorem key_histories_all (cfg : Config) (evs : List Ev) (disc : Bool)
    (hacc : Accepted cfg = true) (hk : evs.all keyOnly = true) :
    checkAll (modelTrace cfg evs disc) = [] := by
  -- the axis monitor is silent and tells the key monitor that no axis holds anything
  obtain ⟨a1, a2, a3⟩ := axis_steps_key (cfg := cfg) evs (Dev.init cfg) 0 (ABook.init (StObs.ofDev (Dev.init cfg))) hk
    rfl rfl rfl
  obtain ⟨infos, hi⟩ : ∃ infos, infos = (checkAxisSteps cfg 0 (ABook.init (StObs.ofDev (Dev.init cfg)))
      (modelSteps (Dev.init cfg) evs).1).2.1.map (fun i => (i.held, i.actionAxis)) := ⟨_, rfl⟩
  obtain ⟨s1, s2⟩ := steps_sim hacc evs (Dev.init cfg) _ 0 infos (inv_init hacc) hk (hi ▸ a2)
  obtain ⟨c1, c2⟩ := cleanup_sim s1
  have hdead := s1.bdead
  show checkAll ⟨cfg, StObs.ofDev (Dev.init cfg), (modelSteps (Dev.init cfg) evs).1,
    if disc = true then some (modelSteps (Dev.init cfg) evs).2.cleanup.2 else none⟩ = []
  -- `a1`, `a3`: the axis monitor; `h0`: the initial-state clause; `s2`: the steps; on the clean-up `c1` answers C05 and
  -- `c2` C01, which asks only while the book's `ok` is on
  unfold checkAll checkAxisTrace checkTrace
  have h0 : ¬ StObs.ofDev (Dev.init cfg) ≠ initExpected cfg := fun h => h rfl
  dsimp only
  rw [a1, a3, show monotoneFails [] = [] from rfl]
  simp only [← hi, s2]
  cases disc with
  | false => simp [h0]
  | true =>
    cases hok : (checkSteps cfg 0 (Book.init (StObs.ofDev (Dev.init cfg))) (modelSteps (Dev.init cfg) evs).1 infos).2.ok with
    | false => simp [h0, hdead, c1]
    | true => simp [h0, hdead, c1, c2 hok]

/-- the place of a side condition on histories; none is needed (octave and semitone are Go `int`s, nothing wraps), so
    `key_histories_nowrap` below is `key_histories_all` -/
def NoWrap (_cfg : Config) (_evs : List Ev) : Prop := True

theorem key_histories_nowrap (cfg : Config) (evs : List Ev) (disc : Bool)
    (hacc : Accepted cfg = true) (hk : evs.all keyOnly = true) (_hw : NoWrap cfg evs) :
    checkAll (modelTrace cfg evs disc) = [] := key_histories_all cfg evs disc hacc hk

end Hidi.EngineSim
