/-
  The regenerated tie for the function bodies of the key path: each Go method that `tools/extract/golite.go` translates
  for it (`Hidi/Gen/Bodies.lean`, regenerated on every run: the action methods, `checkDoubleActions`, `NoteOn` / `NoteOff`,
  `AnalogNoteOn` / `AnalogNoteOff`, `checkExitSequence`, `handleKEYEvent`; `Multinote` by its own translator) computes what
  the hand-written model function computes, whatever had been sent before (`o`).  How these proofs go is said in
  `GoLiteTie.lean`.

  Names: `f_tie : Body.f (toG d o) … = toGR (d.f …) o` is the tie for `f`; the model's own equation for `f`, where there
  is one, is `f_eq` / `f_eq0` in `EngineSimModel`, `PressRelease`, `AxisKeyLemmas`.
-/
import Hidi.Gen.Bodies
import HidiProofs.GoLiteTie
namespace Hidi.BodiesTie
open Hidi Hidi.GoLite Hidi.Gen

/-! The plain field updates (`OctaveUp/Down/Reset`, `SemitoneUp/Down/Reset`, `MappingReset`, `ChannelReset`, `CCLearningOn/Off`)
compute the model's record on both sides: `rfl` where they are called (`invokeActionPress_tie`, `invokeActionRelease_tie`,
`checkDouble_tie`).  The other four test the value first; `Panic` is a loop. -/

theorem mappingUp_tie (d : Dev) (o : List Out := []) : Body.mappingUp (toG d o) = toGR (d.invokePress .mappingUp) o := by
  simp only [Body.mappingUp, Dev.invokePress, golite, toGR_nil, GSt.nMaps]
  split <;> rfl

theorem mappingDown_tie (d : Dev) (o : List Out := []) : Body.mappingDown (toG d o) = toGR (d.invokePress .mappingDown) o := by
  simp only [Body.mappingDown, Dev.invokePress, golite, toGR_nil, Int.natCast_eq_zero]
  split
  · rw [show (d.mapping : Int) - 1 = ((d.mapping - 1 : Nat) : Int) by omega]; rfl
  · rfl

theorem channelUp_tie (d : Dev) (o : List Out := []) : Body.channelUp (toG d o) = toGR (d.invokePress .channelUp) o := by
  simp only [Body.channelUp, Dev.invokePress, golite, toGR_nil,
    show ((d.channel : Int) = 15) = (d.channel = 15) by rw [eq_iff_iff]; omega]
  split <;> rfl

theorem channelDown_tie (d : Dev) (hc : d.channel < 256) (o : List Out := []) :
    Body.channelDown (toG d o) = toGR (d.invokePress .channelDown) o := by
  simp only [Body.channelDown, Dev.invokePress, golite, toGR_nil, Int.natCast_eq_zero]
  split
  · rw [show wrapU8 ((d.channel : Int) - 1) = ((d.channel - 1 : Nat) : Int) by unfold wrapU8; omega]; rfl
  · rfl

theorem panic_tie (d : Dev) (o : List Out := []) : Body.panicAction (toG d o) = toGR (d.invokePress .panic) o := by
  simp only [Body.panicAction, Dev.invokePress, golite, foldl_extClear]
  rw [foldl_emit _ (fun n => noteEvent stNoteOff d.channel n 0) d (fun _ _ => rfl)]
  simp only [golite, toGR_eq, panicOuts, List.range_eq_range', List.append_assoc, List.singleton_append]
  rfl

/-- the dispatch table `actionsPress` of `NewDevice` -/
theorem invokeActionPress_tie (d : Dev) (hc : d.channel < 256) (a : Action) (o : List Out := []) :
    Body.invokeActionPress (toG d o) a = toGR (d.invokePress a) o := by
  cases a
  case panic => exact panic_tie d o
  case mappingUp => exact mappingUp_tie d o
  case mappingDown => exact mappingDown_tie d o
  case channelUp => exact channelUp_tie d o
  case channelDown => exact channelDown_tie d hc o
  all_goals rw [Dev.invokePress, toGR_nil]; rfl

theorem invokeActionRelease_tie (d : Dev) (a : Action) (o : List Out := []) :
    Body.invokeActionRelease (toG d o) a = toG (d.invokeRelease a) o := by
  cases a <;> rfl

theorem checkDouble_tie (d : Dev) (o : List Out := []) :
    Body.checkDoubleActions (toG d o) = (toG d.checkDouble.1 o, d.checkDouble.2) := by
  show _ = (fun r : Dev × Bool => (toG r.1 o, r.2)) d.checkDouble
  simp only [Body.checkDoubleActions, Dev.checkDouble, golite, gt_iff_lt, show ((1 : Int) < (d.actTr.length : Int)) = (1 < d.actTr.length) by rw [eq_iff_iff]; omega,
    apply_ite (fun r : Dev × Bool => (toG r.1 o, r.2))]
  rfl

theorem noteOn_tie (d : Dev) (sub : Sub) (node : String) (code : Code) (v t : Int) (o : List Out := []) :
    Body.noteOn (toG d o) sub node code v t = toGR (d.noteOn sub code) o := by
  rcases hm : d.curMap with _ | m
  · simp only [Body.noteOn, Dev.noteOn, golite, hm, ↓reduceIte]; rfl
  rcases hk : alookup (sub, code) m.midi with _ | key
  · simp only [Body.noteOn, Dev.noteOn, golite, hm, hk, ↓reduceIte, toGR_nil]
  by_cases h : d.transposed key.note < 0 ∨ d.transposed key.note > 127
  · simp only [Body.noteOn, Dev.noteOn, golite, hm, hk, h, ↓reduceIte, toGR_nil]
  -- is the note held already, and the four collision modes: the source tests the mode by `||`-chains, the model by `match`
  by_cases hc : d.count (chanOf d.channel key.chOff) (d.transposed key.note).toNat > 0 <;>
  rcases hmode : d.cfg.mode <;>
  simp only [Body.noteOn, Dev.noteOn, golite, hm, hk, h, hc, hmode, ↓reduceIte, u8_cast h, chan_cast, noteEv_cast, Int.toNat_natCast,
    reduceCtorEq, or_false, or_true, or_self, toGR_eq, List.append_nil, List.append_assoc, List.singleton_append] <;> rfl

theorem noteOff_tie (d : Dev) (sub : Sub) (node : String) (code : Code) (v t : Int) (o : List Out := []) :
    Body.noteOff (toG d o) sub node code v t = toGR (d.noteOff code) o := by
  rcases hk : alookup code d.noteTr with _ | ⟨note, ch⟩
  · simp only [Body.noteOff, Dev.noteOff, golite, hk, ↓reduceIte, toGR_nil]
  -- is this the last holder, and the four collision modes (as in `noteOn_tie`)
  by_cases hc : d.count ch note = 1 <;>
  rcases hmode : d.cfg.mode <;>
  simp only [Body.noteOff, Dev.noteOff, golite, hk, hc, hmode, ↓reduceIte, reduceCtorEq, or_false, or_true, or_self,
    not_true_eq_false, not_false_eq_true, toGR_eq, List.append_nil] <;> rfl

theorem analogNoteOn_tie (d : Dev) (id : Code × Bool) (note chOff : Nat) (sub : Sub) (node : String) (code : Code) (v t : Int)
    (o : List Out := []) :
    Body.analogNoteOn (toG d o) id (note : Int) (chOff : Int) sub node code v t = toGR (d.analogNoteOn id note chOff) o := by
  by_cases h : d.transposed note < 0 ∨ d.transposed note > 127
  · simp only [Body.analogNoteOn, Dev.analogNoteOn, golite, h, ↓reduceIte, toGR_nil]
  · simp only [Body.analogNoteOn, Dev.analogNoteOn, golite, h, ↓reduceIte, u8_cast h, chan_cast, Int.toNat_natCast]; rfl

theorem analogNoteOff_tie (d : Dev) (id : Code × Bool) (sub : Sub) (node : String) (code : Code) (v t : Int) (o : List Out := []) :
    Body.analogNoteOff (toG d o) id sub node code v t = toGR (d.analogNoteOff id) o := by
  rcases hk : alookup id d.anaTr with _ | ⟨note, ch⟩ <;>
  simp only [Body.analogNoteOff, Dev.analogNoteOff, golite, hk, ↓reduceIte, toGR_nil] <;> rfl

theorem checkExit_tie (d : Dev) (o : List Out := []) :
    Body.checkExitSequence (toG d o) = (if d.exitComplete then (toG d o).emit .sig else toG d o, d.exitComplete) := by
  have h1 : ((d.cfg.exitSeq.length : Int) == 0) = d.cfg.exitSeq.isEmpty := by cases d.cfg.exitSeq <;> rfl
  -- the source leaves when some key of the sequence is not down (`any (!contains)`), the model asks whether all are
  rcases hE : d.cfg.exitSeq.isEmpty <;> rcases hA : (d.cfg.exitSeq.all fun k => decide (k ∈ d.keyTr)) <;>
    simp only [Body.checkExitSequence, Dev.exitComplete, Id.run, pure, toG_cfg, toG_keyTr, h1, ← List.not_all_eq_any_not,
      List.contains_eq_mem, hE, hA, Bool.not_true, Bool.not_false, Bool.false_eq_true, Bool.and_self, Bool.and_false, Bool.and_true,
      ↓reduceIte]

theorem toG_multinote (d : Dev) (o : List Out := []) : multinoteP (toG d o) = toG d.multinote o := by
  unfold multinoteP Dev.multinote
  simp only [toG_noteTr']
  generalize sortInts (d.noteTr.map (fun p => (p.2.1 : Int))) = l
  rcases l with _ | ⟨a, _ | ⟨b, r⟩⟩ <;> rfl

theorem foldl_snoc_map {α β : Type} (f : α → β) (l : List α) (acc : List β) :
    l.foldl (fun acc x => acc ++ [f x]) acc = acc ++ l.map f := by
  induction l generalizing acc with
  | nil => simp
  | cons x r ih => simp [ih]

theorem insertSorted_length (x : Int) (l : List Int) : (insertSorted x l).length = l.length + 1 := by
  induction l with
  | nil => rfl
  | cons y r ih =>
    unfold insertSorted
    split
    · rfl
    · simp [ih]

theorem sortInts_length (l : List Int) : (sortInts l).length = l.length := by
  unfold sortInts
  induction l with
  | nil => rfl
  | cons x r ih => simp only [List.foldr_cons, insertSorted_length, ih, List.length_cons]

/-- the translated `Multinote` (device.go) is the model's: the pressed notes collected from the tracker, none or one of them
    disengages, otherwise sorted and differenced against the lowest -/
theorem Multinote_eq (g : GSt) : Body.Multinote g = multinoteP g := by
  unfold Body.Multinote multinoteP
  simp only [Id.run, pure, wrapInt, foldl_snoc_map, List.nil_append]
  have hl := sortInts_length (g.noteTr.map (fun p => ((p.2.1 : Nat) : Int)))
  generalize hL : g.noteTr.map (fun p => ((p.2.1 : Nat) : Int)) = L at hl ⊢
  rcases L with _ | ⟨a, _ | ⟨b, r⟩⟩
  · rfl
  · simp only [List.length_cons, List.length_nil]
    rfl
  · simp only [List.length_cons] at hl ⊢
    generalize sortInts (a :: b :: r) = S at hl ⊢
    rcases S with _ | ⟨x, _ | ⟨y, t⟩⟩
    · simp at hl
    · simp at hl
    · have h0 : ¬ ((r.length : Int) + 1 + 1 = 0) := by omega
      have h1 : ¬ ((r.length : Int) + 1 + 1 = 1) := by omega
      simp [h0, h1, GSt.setMulti]

theorem checkDouble_channel_lt (d : Dev) (h : d.channel < 256) : d.checkDouble.1.channel < 256 := by
  simp only [Dev.checkDouble, apply_ite (fun r : Dev × Bool => r.1.channel < 256), h, Nat.zero_lt_succ, ite_self]

theorem handleKey_tie (d : Dev) (hch : d.channel < 256) (sub : Sub) (node : String) (code : Code) (v t : Int) (o : List Out := []) :
    Body.handleKEYEvent (toG d o) sub node code v t = toGR (d.handleKey sub code v) o := by
  rcases hm : d.curMap with _ | m
  · simp only [Body.handleKEYEvent, Dev.handleKey, golite, hm, ↓reduceIte]; rfl
  by_cases h1 : v = 1
  · subst h1
    -- the exit sequence is tested before anything is looked up
    simp only [Body.handleKEYEvent, Dev.handleKey, golite, hm, ↓reduceIte, checkExit_tie, true_and]
    generalize Dev.exitComplete _ = e
    cases e
    · -- an action key or not, a note key or not
      rcases ha : alookup code d.cfg.actions with _ | a <;> rcases hk : alookup (sub, code) m.midi with _ | key <;>
      simp only [golite, ↓reduceIte, Bool.false_eq_true, Int.reduceEq, noteOn_tie, checkDouble_tie, toGR_nil, false_or, and_false,
        invokeActionPress_tie, checkDouble_channel_lt, hch, Bool.not_eq_true', ← Bool.not_eq_true, ite_not]
    · simp only [golite, ↓reduceIte]; rfl
  by_cases h0 : v = 0
  · subst h0
    rcases ha : alookup code d.cfg.actions with _ | a
    · rcases hk : alookup (sub, code) m.midi with _ | key
      · rcases ht : alookup code d.noteTr with _ | p <;>
        simp only [Body.handleKEYEvent, Dev.handleKey, Dev.noteOff, golite, hm, ha, hk, ht, ↓reduceIte, Int.reduceEq, false_and, noteOff_tie,
          toGR_nil, true_or, and_true, ite_self]
      · simp only [Body.handleKEYEvent, Dev.handleKey, golite, hm, ha, hk, ↓reduceIte, Int.reduceEq, false_and, noteOff_tie]
    · by_cases hmn : a = .multinote <;>
      simp only [Body.handleKEYEvent, Dev.handleKey, golite, hm, ha, hmn, ↓reduceIte, Int.reduceEq, false_and, Multinote_eq,
        toG_multinote, invokeActionRelease_tie, toGR_nil]
  · rcases ha : alookup code d.cfg.actions with _ | a <;> rcases hk : alookup (sub, code) m.midi with _ | key <;>
    simp only [Body.handleKEYEvent, Dev.handleKey, golite, hm, ha, hk, h1, h0, ↓reduceIte, false_and, toGR_nil, false_or, ite_self]

end Hidi.BodiesTie
