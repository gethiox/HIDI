/-
  HidiProofs.FanLive — "removing a device always completes even if that device has stopped reading" as a progress
  theorem about the guarded fan-out of `Hidi.Fan`.

  `helper s id` is the step of the dispatcher round that serves a pending `DespawnOutput(id)`: the dispatcher's send or
  unlock, the despawn itself once the mutex is free, and — only when the dispatcher is blocked on a full output that has
  NOT been told to leave — one receive by that output's consumer.  In every reachable state with `id` pending this step
  is enabled, it is never a step of a consumer that has been told to leave (in particular never of `id`'s), and a
  measure bounded by `2·|outputs| + 5` (`measure_le`) strictly decreases until the removal has returned.
-/
import HidiProofs.FanLemmas
namespace Hidi.FanLive
open Hidi Hidi.Fan Hidi.FanLemmas

structure LInv (s : St) : Prop where
  /-- a buffer never holds more than the channel capacity -/
  buf : ∀ id o, alookup id s.outputs = some o → o.buf.length ≤ s.cap
  /-- a pending removal refers to a live output … -/
  pend : ∀ id ∈ s.pendingDespawn, (alookup id s.outputs).isSome = true
  /-- … which, in the guarded variant, has been told to leave -/
  lv : s.guarded = true → ∀ id ∈ s.pendingDespawn, ∀ o, alookup id s.outputs = some o → o.leaving = true

theorem linv_init (guarded : Bool) (cap : Nat) : LInv { guarded := guarded, cap := cap } :=
  ⟨(by intro id o h; simp [alookup] at h), (by intro id h; cases h), (by intro _ id h; cases h)⟩

theorem setOut_linv (s : St) (id : Nat) (o0 o : Output) (hi : LInv s) (h : alookup id s.outputs = some o0)
    (hb : o.buf.length ≤ s.cap) (hl : o0.leaving = true → o.leaving = true) : LInv (setOut s id o) := by
  refine ⟨?_, ?_, ?_⟩
  · intro id' o' h'
    rw [setOut_lookup, h] at h'
    split at h'
    · cases h'; exact hb
    · exact hi.buf id' o' h'
  · intro id' hp
    show (alookup id' (setOut s id o).outputs).isSome = true
    rw [setOut_lookup, h]
    split
    · rfl
    · exact hi.pend id' hp
  · intro hg id' hp o' h'
    rw [setOut_lookup, h] at h'
    split at h'
    · rename_i e; subst e; cases h'; exact hl (hi.lv hg id' hp o0 h)
    · exact hi.lv hg id' hp o' h'

theorem pend_linv {s : St} (hi : LInv s) {id : Nat} (hlive : (alookup id s.outputs).isSome = true)
    (hlv : s.guarded = true → ∀ o, alookup id s.outputs = some o → o.leaving = true) :
    LInv { s with pendingDespawn := s.pendingDespawn ++ [id] } := by
  refine ⟨hi.buf, fun id' hp => ?_, fun hg id' hp o h => ?_⟩
  · rcases List.mem_append.mp hp with h | h
    · exact hi.pend id' h
    · cases List.mem_singleton.mp h; exact hlive
  · rcases List.mem_append.mp hp with h' | h'
    · exact hi.lv hg id' h' o h
    · cases List.mem_singleton.mp h'; exact hlv hg o h

theorem step_linv (s : St) (x : Step) (hi : LInv s) (he : enabled s x = true) : LInv (step s x) := by
  cases x with
  | feed m => exact ⟨hi.buf, hi.pend, hi.lv⟩
  | take =>
    simp only [step]
    split
    · exact ⟨hi.buf, hi.pend, hi.lv⟩
    · exact hi
  | unlock => exact ⟨hi.buf, hi.pend, hi.lv⟩
  | send =>
    simp only [step]
    split
    · rename_i m id rest hin
      split
      · rename_i o ho
        split
        · rename_i hlt
          have := setOut_linv s id o { o with buf := o.buf ++ [m] } hi ho (by simp; omega) (fun h => h)
          exact ⟨this.buf, this.pend, this.lv⟩
        · exact ⟨hi.buf, hi.pend, hi.lv⟩
      · exact ⟨hi.buf, hi.pend, hi.lv⟩
    · exact hi
  | spawn =>
    simp only [step]
    refine ⟨?_, ?_, ?_⟩
    · intro id o h
      rcases alookup_snoc_some h with h1 | ⟨-, rfl⟩
      · exact hi.buf id o h1
      · simp
    · intro id hp
      obtain ⟨o1, h1⟩ := Option.isSome_iff_exists.mp (hi.pend id hp)
      rw [alookup_append, h1]; rfl
    · intro hg id hp o h
      rcases alookup_snoc_some h with h1 | ⟨rfl, -⟩
      · exact hi.lv hg id hp o h1
      · -- a pending id is live, the new id is fresh
        have := hi.pend _ hp
        rw [alookup_eq_none.mpr (freeId_fresh s.outputs)] at this; cases this
  | callDespawn id =>
    simp only [enabled, Bool.and_eq_true, Bool.not_eq_true'] at he
    obtain ⟨o0, ho⟩ := Option.isSome_iff_exists.mp he.1
    simp only [step, ho]
    split
    · -- guarded: the output is told to leave, then the call is pending
      have h1 := setOut_linv s id o0 { o0 with leaving := true } hi ho (hi.buf id o0 ho) (fun _ => rfl)
      have hl := setOut_lookup_self s id { o0 with leaving := true } he.1
      exact pend_linv h1 (by rw [hl]; rfl) (fun _ o h => by rw [hl] at h; cases h; rfl)
    · rename_i hg
      exact pend_linv hi he.1 (fun h => absurd h hg)
  | despawn id =>
    simp only [enabled, Bool.and_eq_true, List.contains_iff_mem] at he
    simp only [step]
    split
    · refine ⟨fun id' o' h' => hi.buf id' o' (alookup_aerase_some h').2, ?_, ?_⟩
      · intro id' hp
        simp only [List.mem_filter, decide_eq_true_eq] at hp
        show (alookup id' (aerase id s.outputs)).isSome = true
        rw [alookup_aerase_ne hp.2]; exact hi.pend id' hp.1
      · intro hg id' hp o' h'
        simp only [List.mem_filter, decide_eq_true_eq] at hp
        exact hi.lv hg id' hp.1 o' (alookup_aerase_some h').2
    · -- a pending removal refers to a live output
      rename_i ho
      have := hi.pend id he.2
      rw [ho] at this; cases this
  | consume id =>
    simp only [step]
    split
    · rename_i o ho
      split
      · rename_i m r hb
        have hle := hi.buf id o ho
        exact setOut_linv s id o { o with buf := r, recvd := o.recvd ++ [m] } hi ho (by rw [hb] at hle; simp at hle ⊢; omega) (fun h => h)
      · exact hi
    · exact hi

theorem run_linv (steps : List Step) : ∀ s, LInv s → LInv (run s steps) := run_induction step_linv steps

theorem step_params (s : St) (x : Step) : (step s x).cap = s.cap ∧ (step s x).guarded = s.guarded := by
  cases x <;> simp only [step, and_self] <;> (repeat' split) <;> exact ⟨rfl, rfl⟩

@[simp] theorem step_cap (s : St) (x : Step) : (step s x).cap = s.cap := (step_params s x).1

@[simp] theorem step_guarded (s : St) (x : Step) : (step s x).guarded = s.guarded := (step_params s x).2

def helper (s : St) (id : Nat) : Step :=
  match s.inflight with
  | none => .despawn id
  | some (_, []) => .unlock
  | some (_, j :: _) => if enabled s .send then .send else .consume j

/-- steps of the dispatcher round still ahead, counted generously -/
def measure (s : St) : Nat :=
  match s.inflight with
  | none => 1
  | some (_, []) => 2
  | some (_, _ :: r) => 2 * r.length + 4 + (if enabled s .send then 0 else 1)

theorem blocked {s : St} {m j : Nat} {r : List Nat} (hn : s.inflight = some (m, j :: r)) (hs : ¬ enabled s .send = true) :
    ∃ o, alookup j s.outputs = some o ∧ ¬ o.buf.length < s.cap ∧ ¬ (s.guarded = true ∧ o.leaving = true) := by
  simp only [enabled, hn] at hs
  cases ho : alookup j s.outputs with
  | none => simp [ho] at hs
  | some o =>
    simp only [ho, Bool.or_eq_true, decide_eq_true_eq, Bool.and_eq_true, not_or] at hs
    exact ⟨o, rfl, hs⟩

theorem helper_enabled (s : St) (id : Nat) (hc : 0 < s.cap) (hp : id ∈ s.pendingDespawn) :
    enabled s (helper s id) = true := by
  unfold helper
  split
  · rename_i hn; simp [enabled, hn, hp]
  · rename_i hn; simp [enabled, hn]
  · rename_i m j r hn
    split
    · assumption
    · rename_i hs
      obtain ⟨o, ho, hfull, -⟩ := blocked hn hs
      simp only [enabled, ho]
      cases hb : o.buf with
      | nil => rw [hb] at hfull; simp at hfull; omega
      | cons _ _ => rfl

theorem helper_progress (s : St) (id : Nat) (hi : LInv s) (hc : 0 < s.cap) (hp : id ∈ s.pendingDespawn) :
    id ∉ (step s (helper s id)).pendingDespawn ∨
      (id ∈ (step s (helper s id)).pendingDespawn ∧ measure (step s (helper s id)) < measure s) := by
  unfold helper
  split
  · -- despawn
    left
    simp only [step]
    split <;> simp
  · rename_i m hn
    right
    refine ⟨by simpa [step] using hp, ?_⟩
    simp [measure, step, hn]
  · rename_i m j r hn
    right
    split
    · rename_i hs
      -- send
      have hpd : (step s .send).pendingDespawn = s.pendingDespawn := by
        simp only [step, hn]; (repeat' split) <;> rfl
      have hin : (step s .send).inflight = some (m, r) := by
        simp only [step, hn]; (repeat' split) <;> rfl
      refine ⟨by rw [hpd]; exact hp, ?_⟩
      unfold measure
      rw [hin, hn]
      simp only [hs, if_true]
      cases r with
      | nil => simp
      | cons a b => simp only [List.length_cons]; split <;> omega
    · rename_i hs
      -- the consumer of the full, not leaving output receives one message
      obtain ⟨o, ho, hfull, -⟩ := blocked hn hs
      have hle := hi.buf j o ho
      cases hb : o.buf with
      | nil =>
        have : ¬ (0 < s.cap) := by simpa [hb] using hfull
        omega
      | cons x xs =>
        have hst : step s (.consume j) = setOut s j { o with buf := xs, recvd := o.recvd ++ [x] } := by
          simp only [step, ho, hb]
        rw [hst]
        have hin : (setOut s j { o with buf := xs, recvd := o.recvd ++ [x] }).inflight = some (m, j :: r) := hn
        -- after the receive there is room, so the send is enabled
        have hen : enabled (setOut s j { o with buf := xs, recvd := o.recvd ++ [x] }) .send = true := by
          rw [hb] at hle
          simp only [enabled, hin, setOut_lookup_self s j _ (by rw [ho]; rfl)]
          exact Bool.or_eq_true_iff.mpr (.inl (decide_eq_true (Nat.lt_of_succ_le hle)))
        refine ⟨hp, ?_⟩
        unfold measure
        rw [hin, hn, hen]
        simp [hs]

def driveSteps (id : Nat) : Nat → St → List Step
  | 0, _ => []
  | n + 1, s => if id ∈ s.pendingDespawn then helper s id :: driveSteps id n (step s (helper s id)) else []

theorem driveSteps_done (id : Nat) (n : Nat) (s : St) (h : id ∉ s.pendingDespawn) : driveSteps id n s = [] := by
  cases n with
  | zero => rfl
  | succ k => simp only [driveSteps, h, if_false]

theorem measure_pos (s : St) : 0 < measure s := by
  unfold measure
  (repeat' split) <;> omega

theorem measure_le (s : St) (hi : Inv s) : measure s ≤ 2 * s.outputs.length + 5 := by
  unfold measure
  split
  · omega
  · omega
  · rename_i m j r hn
    obtain ⟨hnd, -, hsub⟩ := hi.todo m (j :: r) hn
    have : (j :: r).length ≤ (akeys s.outputs).length := hnd.length_le_of_subset hsub
    simp only [List.length_cons, akeys, List.length_map] at this
    split <;> omega

/-- a step that the removal of `id` may rely on: the dispatcher's send or unlock, the despawn itself, or a receive by a
    consumer that has not been told to leave -/
def GoodStep (t : St) (id : Nat) (x : Step) : Prop :=
  enabled t x = true ∧
  (x = .send ∨ x = .unlock ∨ x = .despawn id ∨
    ∃ j, x = .consume j ∧ ∃ o, alookup j t.outputs = some o ∧ o.leaving = false ∧ j ∉ t.pendingDespawn)

def GoodSchedule (id : Nat) : St → List Step → Prop
  | _, [] => True
  | t, x :: r => GoodStep t id x ∧ GoodSchedule id (step t x) r

/-- **no step of a leaving consumer is needed** (guarded variant): the helper step is a `GoodStep`; when it is a receive, it
    is a receive by the full output the dispatcher is blocked on, which has not been told to leave (so it is not the one
    being removed, nor any other output under removal) -/
theorem helper_good (s : St) (id : Nat) (hi : LInv s) (hg : s.guarded = true) (hc : 0 < s.cap)
    (hp : id ∈ s.pendingDespawn) : GoodStep s id (helper s id) := by
  refine ⟨helper_enabled s id hc hp, ?_⟩
  unfold helper
  split
  · exact .inr (.inr (.inl rfl))
  · exact .inr (.inl rfl)
  · rename_i m j r hn
    split
    · exact .inl rfl
    · rename_i hs
      obtain ⟨o, ho, -, hnl⟩ := blocked hn hs
      have hl : o.leaving = false := by simpa [hg] using hnl
      refine .inr (.inr (.inr ⟨j, rfl, o, ho, hl, fun hpj => ?_⟩))
      have := hi.lv hg j hpj o ho
      rw [hl] at this; cases this

/-- **the removal completes**: after at most `measure s` helper steps — in the guarded variant each a `GoodStep`, enabled
    when it is taken — `DespawnOutput(id)` has returned -/
theorem driveSteps_spec (id : Nat) : ∀ (n : Nat) (s : St), LInv s → 0 < s.cap → measure s ≤ n →
    (driveSteps id n s).length ≤ measure s ∧ (s.guarded = true → GoodSchedule id s (driveSteps id n s)) ∧
      id ∉ (run s (driveSteps id n s)).pendingDespawn
  | 0, s, _, _, hm => by have := measure_pos s; omega
  | n + 1, s, hi, hc, hm => by
    simp only [driveSteps]
    split
    · rename_i hp
      have he := helper_enabled s id hc hp
      simp only [run, he, if_true, List.length_cons]
      rcases helper_progress s id hi hc hp with h | ⟨_, h⟩
      · rw [driveSteps_done id n _ h]
        exact ⟨measure_pos s, fun hg => ⟨helper_good s id hi hg hc hp, trivial⟩, h⟩
      · obtain ⟨h1, h2, h3⟩ := driveSteps_spec id n _ (step_linv s _ hi he) (by simpa using hc) (by omega)
        exact ⟨by omega, fun hg => ⟨helper_good s id hi hg hc hp, h2 (by simpa using hg)⟩, h3⟩
    · rename_i hp; exact ⟨Nat.zero_le _, fun _ => trivial, hp⟩

theorem run_cap (steps : List Step) : ∀ s, (run s steps).cap = s.cap := fun s =>
  run_induction (P := fun t => t.cap = s.cap) (fun t x h _ => (step_cap t x).trans h) steps s rfl

theorem run_guarded (steps : List Step) : ∀ s, (run s steps).guarded = s.guarded := fun s =>
  run_induction (P := fun t => t.guarded = s.guarded) (fun t x h _ => (step_guarded t x).trans h) steps s rfl

end Hidi.FanLive
