/-
  HidiProofs.KInvReach — every state reached by a history of any event kinds (keys, axes, SYN, MIDI input) satisfies
  `KInv` as long as the device has not crashed; so every per-event theorem about the key handler proved under `DInv`
  holds in all those states (through `AnaIndep.handleKey_split`).  `KInv` is `DevOK` (C05, every reachable state) plus
  "not crashed" plus the configured velocity, and no event writes the velocity (`Handlers.run_const`).
-/
import HidiProofs.AnaIndep
import HidiProofs.Handlers
import HidiProofs.Props.C05full
namespace Hidi.KInvReach
open Hidi Hidi.Spec Hidi.EngineSim Hidi.AnaIndep Hidi.Props.C05

theorem analogNoteOn_vel (d : Dev) (id : Code × Bool) (n c : Nat) : (d.analogNoteOn id n c).1.velocity = d.velocity := by
  rw [AxisKeyLemmas.analogNoteOn_writes]

theorem analogNoteOff_vel (d : Dev) (id : Code × Bool) : (d.analogNoteOff id).1.velocity = d.velocity := by
  rw [AxisKeyLemmas.analogNoteOff_eq]

/-- **every reachable state of every history** (keys, axes, SYN, MIDI input in any order) that has not crashed satisfies
    the invariant of key handling -/
theorem reachable_kinv (cfg : Config) (hacc : Accepted cfg = true) (evs : List Ev)
    (hdead : ((Dev.init cfg).run evs).1.dead = false) : KInv cfg ((Dev.init cfg).run evs).1 := by
  have h := C05_run_ok cfg hacc evs
  exact ⟨h.cfg_eq, hdead, rfl, h.ch, h.map, (Handlers.run_const evs _).2, trivial, trivial, h.noteTr⟩

end Hidi.KInvReach
