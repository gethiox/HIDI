/-
  The regenerated body of the axis handler (`handleABSEvent`, events.go — emitted by tools/extract/golite.go as a chain of
  eleven segment definitions `Body.handleABSEvent_s0 … _s10`, one per top-level compound statement) and of
  `processEvent` compute what the model's `Dev.handleAbs` / `Dev.step` compute: for every state, configuration, axis
  and raw value.  The float64 operations are the `fadd / fsub / fmul / fdiv / rnd53` of `Hidi/Float.lean` on both sides
  (each Go operation is one correctly rounded operation; literals are `rnd53` of their decimal value).

  From the last segment back to the first: the dispatch on the mapping type has a lemma per type (`s10_cc`, `s10_pb`,
  `s10_key`, `s10_action`; together `s10_tie`); `s9_tie` (CC-learning gate), `s8_tie` (flip), `s7_tie` (duplicate suppression),
  `s6_tie` (deadzone cut) and `s5_tie` (deadzone look-up) are one segment each; `s2_tie` covers the three assignments of
  segments 2 to 4 (range, normalisation, centring) and `handleAbs_tie` segments 0 and 1 (the analog entry, the release of a
  stale key emulation).  The model in the same staging is `handleAbs_model` with `tailA`, `tailW`, `kindDispatch` (end of `AxisKeyLemmas.lean`); the cut is `AxisLemmas.dzCut`.
-/
import HidiProofs.Bodies
import HidiProofs.AxisKeyLemmas
import HidiProofs.AxisLemmas
namespace Hidi.BodiesTie
open Hidi Hidi.GoLite Hidi.Gen Hidi.AxisLemmas

theorem lit1 : rnd53 ((10 : Rat) / 10) = 1 := by
  rw [show ((10 : Rat) / 10) = 1 by norm_num]; exact Hidi.FloatLemmas.rnd53_one
theorem lit05 : rnd53 ((5 : Rat) / 10) = 1/2 := by
  rw [show ((5 : Rat) / 10) = 1/2 by norm_num]; exact Hidi.FloatLemmas.rnd53_half
theorem lit49 : rnd53 ((49 : Rat) / 100) = c49 := rfl
theorem neg_half : (-(1/2 : Rat)) = -1/2 := by norm_num

theorem s10_cc (d : Dev) (o : List Out) (sub : Sub) (node : String) (code : Code) (raw t : Int) (a : Analog) (ok : Bool)
    (v : Rat) (canNeg : Bool) (ai : Int × Int) (mn mx : Int) (dz : Rat) (ok2 : Bool) (last : Rat) (hk : a.kind = .cc) :
    Body.handleABSEvent_s10 (toG d o) sub node code raw t a ok v canNeg ai mn mx dz ok2 last = toGR (d.absCC a canNeg v) o := by
  cases hb : a.bidir <;> cases canNeg <;>
  simp only [Body.handleABSEvent_s10, Dev.absCC, Dev.bidirCC, golite, hk, hb, beq_self_eq_true, ↓reduceIte, lit05, chan_cast, ccEv_cast,
    Int.toNat_natCast, and_true, and_false, and_self, Int.cast_ofNat, Int.cast_zero, Int.cast_one,
    List.contains_eq_mem, Bool.not_eq_true', decide_eq_false_iff_not, ite_not]
  -- The source has `bidirCC`'s body once per side and per reading of the value, which is what `Dev.absCC` / `Dev.bidirCC`
  -- unfolded look like (their equations would fold what is compared branch by branch).  Goals: `bidir` false, false,
  -- true, true with `canNeg` false, true each.
  -- one controller: one message
  iterate 2 rfl
  -- two controllers: the side by the sign test (`v < 1/2`, resp. `v < 0` for an axis that can go negative), then whether
  -- the other side has been zeroed already
  all_goals split <;> split <;> simp only [toGR_eq, List.append_assoc, List.append_nil] <;> rfl

theorem s10_pb (d : Dev) (o : List Out) (sub : Sub) (node : String) (code : Code) (raw t : Int) (a : Analog) (ok : Bool)
    (v : Rat) (canNeg : Bool) (ai : Int × Int) (mn mx : Int) (dz : Rat) (ok2 : Bool) (last : Rat) (hk : a.kind = .pitchBend) :
    Body.handleABSEvent_s10 (toG d o) sub node code raw t a ok v canNeg ai mn mx dz ok2 last =
      toGR (d, [pitchBendEvent (chanOf d.channel a.chOff) (if canNeg then v else fsub (fmul v 2) 1)]) o := by
  cases canNeg <;>
  simp only [Body.handleABSEvent_s10, golite, hk, reduceCtorEq, ↓reduceIte, lit1, chan_cast, pbEv_cast, Int.cast_ofNat] <;> rfl

/-- source and model test the same three zones of the deflection (negative side, rest, positive side, else nothing) -/
theorem zones_congr {α} {c1 c2 c3 : Prop} [Decidable c1] [Decidable c2] [Decidable c3] {A A' B B' C C' D D' : α}
    (hA : A = A') (hB : B = B') (hC : C = C') (hD : D = D') :
    (if c1 then A else if c2 then B else if c3 then C else D) = (if c1 then A' else if c2 then B' else if c3 then C' else D') := by
  rw [hA, hB, hC, hD]

theorem s10_key (d : Dev) (o : List Out) (sub : Sub) (node : String) (code : Code) (raw t : Int) (a : Analog) (ok : Bool)
    (v : Rat) (canNeg : Bool) (ai : Int × Int) (mn mx : Int) (dz : Rat) (ok2 : Bool) (last : Rat) (hk : a.kind = .key) :
    Body.handleABSEvent_s10 (toG d o) sub node code raw t a ok v canNeg ai mn mx dz ok2 last =
      toGR (d.absKey a code canNeg v) o := by
  cases canNeg <;>
  simp only [Body.handleABSEvent_s10, Dev.absKey, golite, hk, reduceCtorEq, ↓reduceIte, lit05, lit1, lit49, neg_half, Int.cast_ofNat,
    analogNoteOn_tie, analogNoteOff_tie, gt_iff_lt, ge_iff_le]
  -- once for each reading of the value (`canNeg`): the branches do not depend on it
  iterate 2
    refine zones_congr ?_ ?_ ?_ (toGR_nil d o).symm
    · rcases alookup (code, true) d.anaTr with _ | p <;> cases a.bidir <;>
        simp only [↓reduceIte, Option.isNone_none, Option.isNone_some, Bool.not_false, Bool.not_true,
          and_self, and_false, false_and, Bool.false_eq_true, toGR_eq, analogNoteOff_tie, List.append_assoc, List.nil_append]
    · simp only [toGR_eq, analogNoteOff_tie, List.append_assoc]
    · rcases alookup (code, false) d.anaTr with _ | p <;>
        simp only [↓reduceIte, Option.isNone_none, Option.isNone_some, Bool.not_false, Bool.not_true, Bool.false_eq_true,
          toGR_eq, analogNoteOff_tie, List.append_assoc, List.nil_append]

theorem s10_action (d : Dev) (hch : d.channel < 256) (o : List Out) (sub : Sub) (node : String) (code : Code) (raw t : Int) (a : Analog) (ok : Bool)
    (v : Rat) (canNeg : Bool) (ai : Int × Int) (mn mx : Int) (dz : Rat) (ok2 : Bool) (last : Rat) (hk : a.kind = .action) :
    Body.handleABSEvent_s10 (toG d o) sub node code raw t a ok v canNeg ai mn mx dz ok2 last =
      toGR (d.absAction a canNeg v) o := by
  have he := checkDouble_channel_lt d hch
  rcases hdb : d.checkDouble with ⟨e, dbl⟩
  rw [hdb] at he
  cases dbl
  · cases canNeg <;>
    simp only [Body.handleABSEvent_s10, Dev.absAction, golite, hk, reduceCtorEq, ↓reduceIte, lit05, lit1, lit49, neg_half, Int.cast_ofNat,
      checkDouble_tie, hdb, invokeActionPress_tie, he, invokeActionRelease_tie, gt_iff_lt, ge_iff_le]
    iterate 2
      refine zones_congr ?_ ?_ ?_ (toGR_nil e o).symm
      · simp only [toGR_eq, golite, invokeActionRelease_tie]
      · simp only [toGR_eq, List.append_nil]
      · simp only [toGR_eq, golite, invokeActionRelease_tie]
  · simp only [Body.handleABSEvent_s10, Dev.absAction, golite, hk, reduceCtorEq, ↓reduceIte, checkDouble_tie, hdb, toGR_nil]

theorem s10_tie (d : Dev) (hch : d.channel < 256) (o : List Out) (sub : Sub) (node : String) (code : Code) (raw t : Int) (a : Analog) (ok : Bool)
    (v : Rat) (canNeg : Bool) (ai : Int × Int) (mn mx : Int) (dz : Rat) (ok2 : Bool) (last : Rat) :
    Body.handleABSEvent_s10 (toG d o) sub node code raw t a ok v canNeg ai mn mx dz ok2 last =
      toGR (kindDispatch d a code canNeg v) o := by
  unfold kindDispatch
  cases hk : a.kind
  · exact s10_cc d o sub node code raw t a ok v canNeg ai mn mx dz ok2 last hk
  · exact s10_pb d o sub node code raw t a ok v canNeg ai mn mx dz ok2 last hk
  · exact s10_key d o sub node code raw t a ok v canNeg ai mn mx dz ok2 last hk
  · exact s10_action d hch o sub node code raw t a ok v canNeg ai mn mx dz ok2 last hk

theorem s9_tie (d : Dev) (hch : d.channel < 256) (o : List Out) (sub : Sub) (node : String) (code : Code) (raw t : Int) (a : Analog) (ok : Bool)
    (v : Rat) (canNeg : Bool) (ai : Int × Int) (mn mx : Int) (dz : Rat) (ok2 : Bool) (last : Rat) :
    Body.handleABSEvent_s9 (toG d o) sub node code raw t a ok v canNeg ai mn mx dz ok2 last =
      toGR (if d.learning ∧ ¬ (v < -1/2 ∨ 1/2 < v) then (d, []) else kindDispatch d a code canNeg v) o := by
  simp only [Body.handleABSEvent_s9, golite, lit05, neg_half, gt_iff_lt, Bool.not_eq_true', Bool.or_eq_false_iff, decide_eq_false_iff_not,
    not_or, s10_tie d hch, toGR_nil]

theorem s8_tie (d : Dev) (hch : d.channel < 256) (o : List Out) (sub : Sub) (node : String) (code : Code) (raw t : Int) (a : Analog) (ok : Bool)
    (w : Rat) (canNeg : Bool) (ai : Int × Int) (mn mx : Int) (dz : Rat) (ok2 : Bool) (last : Rat) :
    Body.handleABSEvent_s8 (toG d o) sub node code raw t a ok w canNeg ai mn mx dz ok2 last =
      toGR (let d' : Dev := { d with lastAna := ainsert (sub, code) w d.lastAna }
            let v := flipVal canNeg a.flip w
            if d'.learning ∧ ¬ (v < -1/2 ∨ 1/2 < v) then (d', []) else kindDispatch d' a code canNeg v) o := by
  cases hf : a.flip <;> cases canNeg <;>
  simp only [Body.handleABSEvent_s8, flipVal, golite, hf, lit1, ↓reduceIte, s9_tie, hch]

theorem s7_tie (d : Dev) (hch : d.channel < 256) (o : List Out) (sub : Sub) (node : String) (code : Code) (raw t : Int) (a : Analog) (ok : Bool)
    (w : Rat) (canNeg : Bool) (ai : Int × Int) (mn mx : Int) (dz : Rat) (ok2 : Bool) :
    Body.handleABSEvent_s7 (toG d o) sub node code raw t a ok w canNeg ai mn mx dz ok2 = toGR (tailW d a sub code canNeg w) o := by
  simp only [Body.handleABSEvent_s7, tailW, golite, s8_tie d hch, toGR_nil]

theorem s6_tie (d : Dev) (hch : d.channel < 256) (o : List Out) (sub : Sub) (node : String) (code : Code) (raw t : Int) (a : Analog) (ok : Bool)
    (v1 : Rat) (canNeg : Bool) (ai : Int × Int) (mn mx : Int) (dz : Rat) (ok2 : Bool) :
    Body.handleABSEvent_s6 (toG d o) sub node code raw t a ok v1 canNeg ai mn mx dz ok2 =
      toGR (tailW d a sub code canNeg (dzCut dz v1)) o := by
  by_cases h1 : v1 < 0 <;> [by_cases h2 : -dz < v1; by_cases h2 : v1 < dz] <;>
  simp only [Body.handleABSEvent_s6, dzCut, golite, lit1, Int.cast_zero, gt_iff_lt, h1, h2, ↓reduceIte, s7_tie d hch]

theorem s5_tie (d : Dev) (hch : d.channel < 256) (o : List Out) (sub : Sub) (node : String) (code : Code) (raw t : Int) (a : Analog) (ok : Bool)
    (v1 : Rat) (canNeg : Bool) (ai : Int × Int) (mn mx : Int) (m : Mapping) (hmap : d.curMap = some m) :
    Body.handleABSEvent_s5 (toG d o) sub node code raw t a ok v1 canNeg ai mn mx =
      match m.deadzone sub code with
      | none => (toG d o).goPanic
      | some dz => toGR (tailW d a sub code canNeg (dzCut dz v1)) o := by
  rcases e1 : alookup (sub, code) m.dz with _ | z1
  · rcases e2 : alookup sub m.defDz with _ | z2
    · rcases e3 : alookup "" m.defDz with _ | z3 <;>
      simp only [Body.handleABSEvent_s5, Mapping.deadzone, golite, hmap, e1, e2, e3, ↓reduceIte, s6_tie d hch]
    · simp only [Body.handleABSEvent_s5, Mapping.deadzone, golite, hmap, e1, e2, ↓reduceIte, s6_tie d hch]
  · simp only [Body.handleABSEvent_s5, Mapping.deadzone, golite, hmap, e1, ↓reduceIte, s6_tie d hch]

theorem s2_tie (d : Dev) (hch : d.channel < 256) (o : List Out) (sub : Sub) (node : String) (code : Code) (raw t : Int) (a : Analog) (ok : Bool)
    (m : Mapping) (hmap : d.curMap = some m) :
    Body.handleABSEvent_s2 (toG d o) sub node code raw t a ok =
      match tailA d m a sub node code raw with
      | none => (toG d o).goPanic
      | some r => toGR r o := by
  rcases hax : (alookup (node, code) d.cfg.axes).getD (0, 0) with ⟨mn, mx⟩
  -- the deadzone entry (none: the Go panic of `s5_tie`), then the three conditionals of the source, one per segment:
  -- `min < 0` (the axis can go negative), `raw < 0` (which bound normalises), `dzCenter` (re-centre; can go negative too)
  rcases hdz : m.deadzone sub code with _ | dz <;>
  by_cases h1 : mn < 0 <;> by_cases h2 : raw < 0 <;> cases h3 : a.dzCenter <;>
  simp only [Body.handleABSEvent_s2, Body.handleABSEvent_s3, Body.handleABSEvent_s4, tailA, shapeRaw, dzCut, golite, hax, hdz, h1, h2, h3, lit1,
    ↓reduceIte, decide_true, decide_false, Bool.or_true, Bool.or_false, Int.cast_ofNat,
    s5_tie d hch _ _ _ _ _ _ _ _ _ _ _ _ _ m hmap]

theorem releaseAxis_tie (d : Dev) (o : List Out) (sub : Sub) (node : String) (code : Code) (raw t : Int) :
    Body.analogNoteOff (Body.analogNoteOff (toG d o) (code, false) sub node code raw t) (code, true) sub node code raw t =
      toGR (d.releaseAxis code) o := by
  simp only [analogNoteOff_tie, toGR_eq, Dev.releaseAxis, List.append_assoc]

theorem handleAbs_tie (d : Dev) (hch : d.channel < 256) (sub : Sub) (node : String) (code : Code) (raw t : Int) (o : List Out := []) :
    Body.handleABSEvent (toG d o) sub node code raw t = toGR (d.handleAbs sub node code raw) o := by
  rcases hm : d.curMap with _ | m
  · simp only [Body.handleABSEvent, Body.handleABSEvent_s0, Dev.handleAbs, golite, hm, ↓reduceIte]; rfl
  rcases ha : alookup (sub, code) m.analog with _ | a
  · simp only [Body.handleABSEvent, Body.handleABSEvent_s0, Body.handleABSEvent_s1, Dev.handleAbs, golite, hm, ha, ↓reduceIte, true_or,
      releaseAxis_tie]
  rw [handleAbs_model d m a sub node code raw hm ha]
  by_cases hk : a.kind = .key
  · simp only [Body.handleABSEvent, Body.handleABSEvent_s0, Body.handleABSEvent_s1, golite, hm, ha, hk, ↓reduceIte, false_or,
      not_true_eq_false, s2_tie d hch _ _ _ _ _ _ _ _ m hm]
    cases tailA d m a sub node code raw <;> rfl
  · have hch' : (d.releaseAxis code).1.channel < 256 := by rw [AxisKeyLemmas.releaseAxis_writes]; exact hch
    have hm' : (d.releaseAxis code).1.curMap = some m := by rw [AxisKeyLemmas.releaseAxis_writes]; exact hm
    simp only [Body.handleABSEvent, Body.handleABSEvent_s0, Body.handleABSEvent_s1, golite, hm, ha, hk, ↓reduceIte, false_or,
      not_false_eq_true, releaseAxis_tie, toGR_eq (d.releaseAxis code), s2_tie _ hch' _ _ _ _ _ _ _ _ m hm']
    cases tailA (d.releaseAxis code).1 m a sub node code raw <;> simp only [golite, toGR_eq, List.append_assoc]

/-- the arguments of the generated `processEvent` for a model event: (sub-handler, device node, code, value, type) -/
def evArgs : Ev → Option (Sub × String × Code × Int × Int)
  | .key sub code v => some (sub, "", code, v, 1)
  | .abs sub node code v => some (sub, node, code, v, 3)
  | .syn => some ("", "", 0, 0, 0)
  | .midiIn _ _ _ => none

theorem processEvent_key (d : Dev) (hch : d.channel < 256) (hdead : d.dead = false) (sub : Sub) (node : String) (code : Code) (v : Int)
    (o : List Out := []) :
    Body.processEvent (toG d o) sub node code v 1 = toGR (d.step (.key sub code v)) o := by
  by_cases h2 : v = 2 <;>
  simp only [Body.processEvent, Dev.step, golite, hdead, h2, Int.reduceEq, ↓reduceIte, true_and, toGR_nil, handleKey_tie d hch _ _ _ _ _ o]

theorem processEvent_abs (d : Dev) (hch : d.channel < 256) (hdead : d.dead = false) (sub : Sub) (node : String) (code : Code) (v : Int)
    (o : List Out := []) :
    Body.processEvent (toG d o) sub node code v 3 = toGR (d.step (.abs sub node code v)) o := by
  simp only [Body.processEvent, Dev.step, golite, hdead, Int.reduceEq, ↓reduceIte, false_and, handleAbs_tie d hch _ _ _ _ _ o]

theorem processEvent_syn (d : Dev) (hdead : d.dead = false) (sub : Sub) (node : String) (code : Code) (v : Int) (o : List Out := []) :
    Body.processEvent (toG d o) sub node code v 0 = toGR (d.step .syn) o := by
  simp only [Body.processEvent, Dev.step, golite, hdead, ↓reduceIte, toGR_nil]

end Hidi.BodiesTie
