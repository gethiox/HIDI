import Lean.Meta.Tactic.Simp.RegisterCommand
/-- symbolic execution of the GoLite primitives on a state `toG d o` (the lemmas are in `HidiProofs/GoLiteTie.lean`) -/
register_simp_attr golite
