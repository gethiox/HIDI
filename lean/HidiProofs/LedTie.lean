/-
  The regenerated frame computation of the LED refresh loop (`Hidi/Gen/LedFrame.lean`, written on every run by
  tools/extract/ledframe.go from `handleOpenrgb`, open_rgb.go) equals the model's `Led.frame` (`ledFrame_eq`), pass by pass.
-/
import Hidi.Gen.LedFrame
import HidiProofs.LedSpec
import HidiProofs.GoLiteTie
namespace Hidi.LedTie
open Hidi Hidi.Led Hidi.GoLite Hidi.Gen Hidi.LedSpec

/-- the strip LEDs: the bounds-checked setter of the source writes like `setAt` (indices of `nameToIndex` are LEDs) -/
theorem strip_eq (d : Dev) (devName : String) (leds : List String) :
    (stripLeds devName).foldl (fun (f : Frame) (name : String) =>
      match alookup name (nameToIndex leds) with
      | some id => (match f with | Outcome.ok l => if id < l.length then Outcome.ok (l.set id (⟨0, 0, 0⟩ : RGB)) else f | x => x)
      | none => f) (Outcome.ok (List.replicate leds.length d.cfg.colors.unavailable)) = frameStrip true d devName leds := by
  rw [frameStrip_eq]
  refine foldl_writes (n := leds.length) _ _ (fun name l hl => ?_) _ _ (by simp)
  cases h : alookup name (nameToIndex leds) with
  | none => rfl
  | some i => simp [hl ▸ nameToIndex_lt leds name i h, wOpt, applyW, off]

abbrev fm (l : List (Bool × Action × RGB)) : List (Action × RGB) := l.filterMap (fun t => if t.1 then some t.2 else none)

theorem guarded_fold (P : Frame → Action → RGB → Frame) (gl : List (Bool × Action × RGB)) :
    ∀ f, gl.foldl (fun (f : Frame) (t : Bool × Action × RGB) => if t.1 then P f t.2.1 t.2.2 else f) f =
      (fm gl).foldl (fun f p => P f p.1 p.2) f := by
  induction gl with
  | nil => intro f; rfl
  | cons t r ih =>
    intro f
    obtain ⟨g, a, c⟩ := t
    cases g <;> simp [ih]

theorem fm_cons (b : Bool) (p : Action × RGB) (r : List (Bool × Action × RGB)) :
    fm ((b, p) :: r) = (if b then [p] else []) ++ fm r := by cases b <;> rfl

/-- `if c1 { if c2 { paint a x } else { paint a y } }`, read as two guarded paints, is one paint of `a` -/
theorem guard_pair (c1 c2 : Bool) (a : Action) (x y : RGB) (r : List (Action × RGB)) :
    (if (c1 && c2) = true then [(a, x)] else []) ++ ((if (c1 && !c2) = true then [(a, y)] else []) ++ r) =
      (if c1 = true then [(a, if c2 = true then x else y)] else []) ++ r := by
  cases c1 <;> cases c2 <;> rfl

/-- one tracked note in the source (`base := int(note) - offset; if base < 0 || base > 127 { continue }; … [byte(base)]`)
    and in the model (`baseOk`, `baseOf`) -/
theorem note_step (n : Nat) (off : Int) (P : Nat → Frame) (f : Frame) :
    (if (decide (wrapInt (wrapInt (n : Int) - off) < 0) || decide (wrapInt (wrapInt (n : Int) - off) > 127)) = true then f
      else P (wrapU8 (wrapInt (wrapInt (n : Int) - off))).toNat) =
    (if baseOk n off = true then P (baseOf n off) else f) := by
  unfold baseOk baseOf baseI wrapInt wrapU8
  simp only [Bool.or_eq_true, Bool.and_eq_true, decide_eq_true_eq]
  by_cases h : 0 ≤ (n : Int) - off ∧ (n : Int) - off ≤ 127
  · rw [if_pos h, if_neg (by omega), show (((n : Int) - off) % 256).toNat = ((n : Int) - off).toNat by omega]
  · rw [if_neg h, if_pos (by omega)]

theorem foldl_congr {α β} {F G : β → α → β} {a b : β} {l : List α} (hF : ∀ f, ∀ x ∈ l, F f x = G f x) (ha : a = b) :
    l.foldl F a = l.foldl G b := by
  subst ha
  induction l generalizing a with
  | nil => rfl
  | cons x r ih =>
    rw [List.foldl_cons, List.foldl_cons, hF a x List.mem_cons_self]
    exact ih fun f y hy => hF f y (List.mem_cons_of_mem _ hy)

/-- a range loop over sounding notes with a paint under the guard of `note_step` is the model's pass over the notes that
    some key could sound -/
theorem notes_pass {α} (g : α → Nat) (off : Int) (im : List (Nat × Nat)) (m : Mapping) (c : RGB) (L : List α) (a : Frame) :
    L.foldl (fun f p =>
      if (decide (wrapInt (wrapInt (g p : Int) - off) < 0) || decide (wrapInt (wrapInt (g p : Int) - off) > 127)) = true then f
      else paintNote im m f (wrapU8 (wrapInt (wrapInt (g p : Int) - off))).toNat c) a =
    (L.filter (fun p => baseOk (g p) off)).foldl (fun f p => paintNote im m f (baseOf (g p) off) c) a := by
  rw [List.foldl_filter]
  exact foldl_congr (fun f p _ => note_step (g p) off (fun n => paintNote im m f n c) f) rfl

theorem off_eq (d : Dev) : wrapInt (wrapInt (toG d).semitone + wrapInt (wrapInt (toG d).octave * 12)) = d.semitone + d.octave * 12 := rfl

/-- the pitch-class colour of the source (`switch x % 12`, Go's truncating remainder) is the model's `classColor` -/
theorem class_eq (m : Mapping) (sc : RGB → RGB) (cw cb cc : RGB) (x : Int) (h0 : 0 ≤ x) :
    sc (if (m.name == "Control") = true then cw
        else if (Int.tmod x 12 == 0) = true then cc
        else if (Int.tmod x 12 == 1 || Int.tmod x 12 == 3 || Int.tmod x 12 == 6 || Int.tmod x 12 == 8 || Int.tmod x 12 == 10) = true then cb
        else cw) = classColor m (sc cw, sc cb, sc cc) x.toNat := by
  obtain ⟨n, rfl⟩ := Int.eq_ofNat_of_zero_le h0
  have ht : Int.tmod (n : Int) 12 = ((n % 12 : Nat) : Int) := rfl
  have hk : n % 12 < 12 := Nat.mod_lt _ (by decide)
  unfold classColor
  rw [ht, Int.toNat_natCast]
  generalize n % 12 = k at hk
  by_cases hc : m.name = "Control"
  · rw [if_pos hc, if_pos (beq_iff_eq.mpr hc)]
  · rw [if_neg hc, if_neg (mt beq_iff_eq.mp hc)]
    match k, hk with
    | 0, _ | 1, _ | 2, _ | 3, _ | 4, _ | 5, _ | 6, _ | 7, _ | 8, _ | 9, _ | 10, _ | 11, _ => rfl

/-- all guarded paints of the source, in order, are the model's `actionPaints` -/
theorem paints_total (d : Dev) :
    fm [(true, Action.panic, (⟨255, 0, 0⟩ : RGB)), (true, Action.octaveUp, white1), (true, Action.octaveDown, white1),
        (decide ((toG d).octave > 0) && (toG d).octave == 1, Action.octaveUp, white2),
        (decide ((toG d).octave > 0) && !(toG d).octave == 1, Action.octaveUp, white3),
        (decide ((toG d).octave < 0) && (toG d).octave == -1, Action.octaveDown, white2),
        (decide ((toG d).octave < 0) && !(toG d).octave == -1, Action.octaveDown, white3),
        (true, Action.semitoneUp, white1), (true, Action.semitoneDown, white1),
        (decide ((toG d).semitone > 0) && (toG d).semitone == 1, Action.semitoneUp, white2),
        (decide ((toG d).semitone > 0) && !(toG d).semitone == 1, Action.semitoneUp, white3),
        (decide ((toG d).semitone < 0) && (toG d).semitone == -1, Action.semitoneDown, white2),
        (decide ((toG d).semitone < 0) && !(toG d).semitone == -1, Action.semitoneDown, white3),
        (true, Action.mappingUp, white3), (true, Action.mappingDown, white3),
        ((d.mapping : Int) == 0, Action.mappingDown, white1),
        ((d.mapping : Int) == wrapInt ((d.cfg.maps.length : Int) - 1), Action.mappingUp, white1)] ++
    fm [(true, Action.channelUp, chanColor (toG d).channel.toNat),
        (true, Action.channelDown, chanColor (toG d).channel.toNat),
        ((toG d).channel == 0, Action.channelDown,
          (⟨(chanColor (toG d).channel.toNat).r / 3, (chanColor (toG d).channel.toNat).g / 3, (chanColor (toG d).channel.toNat).b / 3⟩ : RGB)),
        ((toG d).channel == 15, Action.channelUp,
          (⟨(chanColor (toG d).channel.toNat).r / 3, (chanColor (toG d).channel.toNat).g / 3, (chanColor (toG d).channel.toNat).b / 3⟩ : RGB)),
        (true, Action.multinote, white1)] = actionPaints d := by
  have ho : (toG d).octave = d.octave := rfl
  have hs : (toG d).semitone = d.semitone := rfl
  have hch : (toG d).channel = (d.channel : Int) := rfl
  have c0 : ((d.channel : Int) == 0) = decide (d.channel = 0) := BodiesTie.beq_cast d.channel 0
  have c15 : ((d.channel : Int) == 15) = decide (d.channel = 15) := BodiesTie.beq_cast d.channel 15
  have m0 : ((d.mapping : Int) == 0) = decide (d.mapping = 0) := BodiesTie.beq_cast d.mapping 0
  simp only [ho, hs, hch, c0, c15, m0, wrapInt, Int.toNat_natCast, fm_cons, guard_pair]
  simp [fm, actionPaints, red, third]

theorem ledFrame_eq (d : Dev) (devName : String) (leds : List String) (sc : RGB → RGB) (cw cb cc : RGB) :
    Body.ledFrame (toG d) devName leds sc cw cb cc = frame true d devName leds (sc cw, sc cb, sc cc) := by
  have hcur : (if (toG d).mapIndexOk (toG d).mapping = true then (toG d).cfg.maps[(toG d).mapping.toNat]? else none) =
      d.curMap := by
    rw [BodiesTie.toG_mapping, BodiesTie.toG_mapIndexOk, BodiesTie.toG_cfg, Int.toNat_natCast]
    cases h : d.curMap with
    | none => rfl
    | some m => exact h
  unfold Body.ledFrame frame
  rw [hcur]
  cases d.curMap with
  | none => rfl
  | some m =>
    -- The action-key paints and the three loops over sounding notes become the model's passes (`paints_total`,
    -- `notes_pass`); then both sides are the same nest of folds and are compared pass by pass from the outermost: own
    -- notes, current channel, the sixteen channels, keyboard mapping, action keys, strip LEDs.  Left over are `byte(ch)`
    -- in the channel loop and the colour of one key.
    simp only [Id.run, pure, GSt.nMaps, BodiesTie.toG_mapping, BodiesTie.toG_cfg, guarded_fold, ← List.foldl_append,
      notes_pass]
    rw [paints_total]
    have hch : (toG d).ext.filter (fun p => ((p.1 : Nat) : Int) = (toG d).channel) = d.ext.filter (fun p => p.1 = d.channel) :=
      List.filter_congr fun p _ => decide_eq_decide.mpr Int.natCast_inj
    rw [hch]
    unfold frameExt frameBase framePre
    refine foldl_congr (fun _ _ _ => rfl) (foldl_congr (fun _ _ _ => rfl) (foldl_congr (fun f ch hmem => ?_)
      (foldl_congr (fun f p _ => ?_) (foldl_congr (fun _ _ _ => rfl) (strip_eq d devName leds)))))
    · have hlt : ch < 16 := List.mem_range.mp (List.mem_reverse.mp hmem)
      rw [show (wrapU8 (ch : Int)).toNat = ch by unfold wrapU8; omega]
      rfl
    · cases alookup p.1.2 (indexMap leds) with
      | none => rfl
      | some i =>
        by_cases hr : (p.2.note : Int) + (d.semitone + d.octave * 12) < 0 ∨ (p.2.note : Int) + (d.semitone + d.octave * 12) > 127
        · exact (if_pos (by simpa only [golite] using hr)).trans (if_pos hr).symm
        · refine (if_neg (by simpa only [golite] using hr)).trans (Eq.trans ?_ (if_neg hr).symm)
          rw [← class_eq m sc cw cb cc _ (by omega)]
          simp only [apply_ite sc, apply_ite (setAt f i)]
          rfl

end Hidi.LedTie
