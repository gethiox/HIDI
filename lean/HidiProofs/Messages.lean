/-
  HidiProofs.Messages — single MIDI messages: the status byte on a real channel, the engine's constructors
  (`noteEvent`, `ccEvent`, `panicOuts`) against the specification's vocabulary (`noteOnMsg`, `noteOffMsg`, `ccMsg`,
  `panicMsgs`), and what a receiver (`Spec.recv`, `Spec.recvCC`) does with them.
-/
import Hidi.SpecAxis
import HidiProofs.AList
namespace Hidi
open Spec

theorem chanOf_lt (c o : Nat) : chanOf c o < 16 := by unfold chanOf; omega

theorem st_off : ∀ ch, ch < 16 → (0x80 ||| ch) % 256 = 0x80 + ch := by decide
theorem st_on : ∀ ch, ch < 16 → (0x90 ||| ch) % 256 = 0x90 + ch := by decide
theorem st_cc : ∀ ch, ch < 16 → (0xB0 ||| ch) % 256 = 0xB0 + ch := by decide
theorem st_pb : ∀ ch, ch < 16 → (0xE0 ||| ch) % 256 = 0xE0 + ch := by decide

theorem noteEvent_on {ch n v : Nat} (h : ch < 16) : noteEvent stNoteOn ch n v = noteOnMsg ch n v := by
  simp only [noteEvent, stNoteOn, noteOnMsg, st_on ch h]

theorem noteEvent_off {ch n : Nat} (h : ch < 16) : noteEvent stNoteOff ch n 0 = noteOffMsg ch n := by
  simp only [noteEvent, stNoteOff, noteOffMsg, st_off ch h]

theorem ccEvent_eq {ch : Nat} (h : ch < 16) (fn v : Nat) : ccEvent ch fn v = ccMsg ch fn v := by
  simp only [ccEvent, ccMsg, stCC, st_cc ch h]

theorem panicOuts_eq {ch : Nat} (h : ch < 16) : panicOuts ch = panicMsgs ch := by
  unfold panicOuts panicMsgs ccEvent noteEvent stCC stNoteOff ccAllNotesOff
  rw [st_cc ch h, st_off ch h]

theorem recv_on {s : List (Nat × Nat)} {ch n v : Nat} (hc : ch < 16) (hv : 0 < v) :
    recv s (noteOnMsg ch n v) = sinsert (ch, n) s := by
  have h1 : (0x90 + ch) / 16 = 9 := by omega
  have h2 : (0x90 + ch) % 16 = ch := by omega
  simp only [recv, noteOnMsg, h1, h2]
  simp [hv]

theorem recv_off {s : List (Nat × Nat)} {ch n : Nat} (hc : ch < 16) :
    recv s (noteOffMsg ch n) = serase (ch, n) s := by
  have h1 : (0x80 + ch) / 16 = 8 := by omega
  have h2 : (0x80 + ch) % 16 = ch := by omega
  simp only [recv, noteOffMsg, h1, h2]
  simp

theorem recvCC_ccEvent {ch : Nat} (h : ch < 16) (R : List ((Nat × Nat) × Nat)) (fn v : Nat) :
    recvCC R (ccEvent ch fn v) = ainsert (ch, fn) v R := by
  rw [ccEvent_eq h]
  have h1 : (0xB0 + ch) / 16 = 11 := by omega
  have h2 : (0xB0 + ch) % 16 = ch := by omega
  simp only [ccMsg, recvCC, h1, h2, if_true]

theorem ccOf_ainsert_self (R : List ((Nat × Nat) × Nat)) (k : Nat × Nat) (v : Nat) :
    ccOf (ainsert k v R) k = v := by
  simp [ccOf, alookup_ainsert_self]

theorem ccOf_ainsert_ne (R : List ((Nat × Nat) × Nat)) {k k' : Nat × Nat} (h : k' ≠ k) (v : Nat) :
    ccOf (ainsert k v R) k' = ccOf R k' := by
  simp [ccOf, alookup_ainsert_ne h]

end Hidi
