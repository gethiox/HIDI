/-
  HidiProofs.MidiInLemmas — the MIDI-input tracker `Dev.midiIn` (`handleInputEvents`): it changes nothing but `ext`, and
  what it does there on a Note On / Note Off status byte.
-/
import Hidi.Engine
namespace Hidi

theorem midiIn_writes (d : Dev) (a b c : Nat) : d.midiIn a b c = { d with ext := (d.midiIn a b c).ext } := by
  let P (r : Dev) : Prop := r = { d with ext := r.ext }
  show P _
  unfold Dev.midiIn
  exact iteInduction (fun _ => iteInduction (fun _ => rfl) fun _ => rfl) fun _ => iteInduction (fun _ => rfl) fun _ => rfl

theorem midiIn_note (d : Dev) (hi ch note vel : Nat) (hch : ch < 16) (hhi : hi = 8 ∨ hi = 9) :
    (d.midiIn (hi * 16 + ch) note vel).ext =
      if hi = 9 ∧ vel ≠ 0 then sinsert (ch, note) d.ext else serase (ch, note) d.ext := by
  have h1 : (hi * 16 + ch) / 16 = hi := by omega
  have h2 : (hi * 16 + ch) % 16 = ch := by omega
  have hc : hi ≠ 15 ∧ hi * 16 + ch ≥ 128 := by omega
  unfold Dev.midiIn
  simp only [h1, h2, if_pos hc, stNoteOn, stNoteOff]
  rcases hhi with rfl | rfl
  · simp
  · by_cases hv : vel = 0 <;> simp [hv]

end Hidi
