/-
  HidiProofs.KeyHistories (namespace `Hidi.KeyHist`) — consequences of the simulation theorem (`EngineSim.steps_sim`)
  stated without the monitor: what a receiver hears, which keys are down, the final invariant.
-/
import HidiProofs.EngineSim
namespace Hidi.KeyHist
open Hidi Hidi.Spec Hidi.EngineSim

/-- keys whose last event was a press (value-2 repeats are dropped before the tracker) -/
def keysDown : List Ev → List Code → List Code
  | [], acc => acc
  | .key _ code val :: r, acc =>
      keysDown r (if val = 2 then acc else if val = 1 then sinsert code acc else serase code acc)
  | _ :: r, acc => keysDown r acc

def allOuts (d : Dev) (evs : List Ev) : List Out := (modelSteps d evs).1.flatMap (·.outs)

/-- what a receiver hears after the history -/
def heard (cfg : Config) (evs : List Ev) : List (Nat × Nat) := sounding [] (allOuts (Dev.init cfg) evs)

/-- the specification's own bookkeeping after the history (no axes: `infos = []`) -/
def finalBook (cfg : Config) (evs : List Ev) : Book :=
  (checkSteps cfg 0 (Book.init (StObs.ofDev (Dev.init cfg))) (modelSteps (Dev.init cfg) evs).1 []).2

/-- the history is inside the quantifier of C01–C04: values 0/1/2, a press only of a key that is up, at most one
    complete action pair held and no third action while it is held (the specification's `ok` flag) -/
def Disciplined (cfg : Config) (evs : List Ev) : Prop := (finalBook cfg evs).ok = true

theorem modelSteps_outs (d : Dev) (evs : List Ev) : (modelSteps d evs).1.map (·.outs) = (d.run evs).2 := by
  induction evs generalizing d with
  | nil => rfl
  | cons e es ih => simp only [modelSteps, Dev.run, List.map_cons]; rw [ih]

theorem modelSteps_final (d : Dev) (evs : List Ev) : (modelSteps d evs).2 = (d.run evs).1 := by
  induction evs generalizing d with
  | nil => rfl
  | cons e es ih => simp only [modelSteps, Dev.run]; rw [ih]

theorem allOuts_eq (d : Dev) (evs : List Ev) : allOuts d evs = (d.runFlat evs).2 := by
  unfold allOuts Dev.runFlat
  rw [List.flatMap_def, modelSteps_outs]

theorem expectStep_down (cfg : Config) (b : Book) (e : Ev) :
    (expectStep cfg b false e).2.down = keysDown [e] b.down := by
  cases e with
  | key sub code val =>
    unfold expectStep keysDown
    by_cases h2 : val = 2
    · simp [h2, keysDown]
    · simp only [h2, if_false, (expectKey_gen cfg b sub code val).1, keysDown, downOf]
  | abs s n c v => simp [expectStep, keysDown]
  | syn => simp [expectStep, keysDown]
  | midiIn x y z => simp [expectStep, keysDown]

theorem keysDown_cons (e : Ev) (es : List Ev) (acc : List Code) :
    keysDown (e :: es) acc = keysDown es (keysDown [e] acc) := by
  cases e <;> simp [keysDown]

theorem book_snd_down (cfg : Config) (evs : List Ev) : ∀ (d : Dev) (b : Book) (i : Nat),
    (checkSteps cfg i b (modelSteps d evs).1 []).2.snd = sounding b.snd (allOuts d evs) ∧
    (checkSteps cfg i b (modelSteps d evs).1 []).2.down = keysDown evs b.down := by
  induction evs with
  | nil => intro d b i; exact ⟨rfl, rfl⟩
  | cons e es ih =>
    intro d b i
    have h := ih (d.step e).1 (checkStep cfg i b ⟨e, (d.step e).2, StObs.ofDev (d.step e).1⟩ (some 0) false).2 (i + 1)
    have hs := checkStep_snd cfg i b ⟨e, (d.step e).2, StObs.ofDev (d.step e).1⟩ (some 0) false
    simp only [modelSteps, checkSteps, List.headD_nil, List.tail_nil, allOuts, List.flatMap_cons]
    refine ⟨?_, ?_⟩
    · rw [h.1, hs, sounding_append]; rfl
    · rw [h.2, hs, keysDown_cons]; simp only [expectStep_down]

theorem final_inv {cfg : Config} (hacc : Accepted cfg = true) {evs : List Ev} (hk : evs.all keyOnly = true) :
    Inv cfg (modelSteps (Dev.init cfg) evs).2 (finalBook cfg evs) :=
  (steps_sim hacc evs _ _ 0 [] (inv_init hacc) hk (by simp)).1

theorem finalBook_snd (cfg : Config) (evs : List Ev) : (finalBook cfg evs).snd = heard cfg evs :=
  (book_snd_down cfg evs _ _ 0).1

theorem finalBook_down (cfg : Config) (evs : List Ev) : (finalBook cfg evs).down = keysDown evs [] :=
  (book_snd_down cfg evs _ _ 0).2

theorem no_fails (p : String) (cfg : Config) (evs : List Ev) (disc : Bool)
    (hacc : Accepted cfg = true) (hk : evs.all keyOnly = true) :
    failsOf p (checkAll (modelTrace cfg evs disc)) = [] := by
  rw [key_histories_all cfg evs disc hacc hk]; rfl

end Hidi.KeyHist
