/-
  HidiProofs.EngineSimKey — one step of the device model against one step of the monitor (`Spec.checkStep`).

  `expectKey` has the branches of the key handler (`expectKey_sw` ... mirror `handleKey_sw` ...).  Whatever the history,
  `handleKey_model` gives the clauses that do not look at the book.  On a history inside the quantifier (the book's `ok`)
  the book is a function of the device (`Inv.eq_bk`), the expectation is what the model does (`key_agrees`), and the
  tracker invariant is kept (`handleKey_core`, an instance of `handleKey_tracks`).
-/
import HidiProofs.Tracks
namespace Hidi.EngineSim
open Hidi Hidi.Spec

def downOf (b : Book) (code : Code) (val : Int) : List Code :=
  if val = 1 then sinsert code b.down else serase code b.down

def swOf (cfg : Config) (b : Book) (code : Code) (val : Int) : Prop :=
  val = 1 ∧ (!cfg.exitSeq.isEmpty) = true ∧ cfg.exitSeq.all (fun k => decide (k ∈ downOf b code val)) = true

instance (cfg : Config) (b : Book) (code : Code) (val : Int) : Decidable (swOf cfg b code val) :=
  inferInstanceAs (Decidable (_ ∧ _ ∧ _))

/-- the book after the key-tracking part of `expectKey` -/
def book1 (b : Book) (code : Code) (val : Int) : Book :=
  { b with down := downOf b code val,
           ok := b.ok && (decide (val = 0) || decide (val = 1)) && !(decide (val = 1) && decide (code ∈ b.down)) }

def quietExpect (b : Book) : Expect := ⟨some [], keepSt b.pre, some b.pinned.length, false, true, none⟩

def expActPress (cfg : Config) (b : Book) (a : Action) : Expect × Book :=
  let acts' := sinsert a b.acts
  let cp := completePairs acts'
  if acts'.length > 1 ∧ cp ≠ [] then
    match cp with
    | [p] =>
      if a = p.1 ∨ a = p.2 then
        (⟨some [], some (resetEffect b.pre p), some b.pinned.length, false, true, none⟩, { b with acts := acts' })
      else (⟨none, none, none, false, true, none⟩, { b with acts := acts', ok := false })
    | _ => (⟨none, none, none, false, true, none⟩, { b with acts := acts', ok := false })
  else
    let outs : List Out := if a = .panic then panicMsgs b.pre.ch else []
    (⟨some outs, some (actionEffect cfg b.pre a), some b.pinned.length, false, true, none⟩, { b with acts := acts' })

def expNotePress (cfg : Config) (b : Book) (sub : Sub) (code : Code) : Expect × Book :=
  match resolve cfg b.pre (u8 cfg.vel) sub code with
  | none => (quietExpect b, b)
  | some (n, ch, v) =>
    let h := holders b.pinned (n, ch)
    let on := noteOnMsg ch n v
    let outs : List Out :=
      match cfg.mode with
      | .off | .retrigger => [on]
      | .noRepeat => if h = 0 then [on] else []
      | .interrupt => if h = 0 then [on] else [noteOffMsg ch n, on]
    let pinned' := ainsert code (n, ch) b.pinned
    (⟨some outs, keepSt b.pre, some pinned'.length, false, decide (h = 0), none⟩, { b with pinned := pinned' })

def expNoteRelease (cfg : Config) (b : Book) (code : Code) : Expect × Book :=
  match alookup code b.pinned with
  | none => (quietExpect b, b)
  | some (n, ch) =>
    let h := holders b.pinned (n, ch)
    let outs : List Out :=
      match cfg.mode with
      | .off => [noteOffMsg ch n]
      | _ => if h = 1 then [noteOffMsg ch n] else []
    let pinned' := aerase code b.pinned
    (⟨some outs, keepSt b.pre, some pinned'.length, false, true, some (noteOffMsg ch n)⟩, { b with pinned := pinned' })

theorem expectKey_eq (cfg : Config) (b : Book) (sub : Sub) (code : Code) (val : Int) :
    expectKey cfg b sub code val =
      if swOf cfg b code val then
        (⟨some [.sig], keepSt b.pre, some b.pinned.length, true, true, none⟩, book1 b code val)
      else
      match alookup code cfg.actions with
      | some a =>
        if val = 1 then expActPress cfg (book1 b code val) a
        else (quietExpect b, { book1 b code val with acts := serase a b.acts })
      | none =>
        if val = 1 then expNotePress cfg (book1 b code val) sub code
        else expNoteRelease cfg (book1 b code val) code := by
  rfl

theorem expectStep_key {cfg : Config} {b : Book} {sub : Sub} {code : Code} {val : Int} (hv : val ≠ 2) :
    expectStep cfg b false (.key sub code val) = expectKey cfg b sub code val := by
  simp [expectStep, hv]

theorem book1_ok {b : Book} {code : Code} {val : Int} (h : (book1 b code val).ok = true) :
    b.ok = true ∧ (val = 0 ∨ val = 1) ∧ ¬ (val = 1 ∧ code ∈ b.down) := by
  simp only [book1, Bool.and_eq_true, Bool.or_eq_true, decide_eq_true_eq, Bool.not_eq_true',
    Bool.and_eq_false_iff, decide_eq_false_iff_not] at h
  refine ⟨h.1.1, h.1.2, ?_⟩
  rintro ⟨h1, h2⟩
  rcases h.2 with h3 | h3
  · exact h3 h1
  · exact h3 h2

theorem expectKey_gen (cfg : Config) (b : Book) (sub : Sub) (code : Code) (val : Int) :
    (expectKey cfg b sub code val).2.down = downOf b code val ∧
    (expectKey cfg b sub code val).1.swallowed = decide (swOf cfg b code val) ∧
    ((expectKey cfg b sub code val).2.ok = true → (book1 b code val).ok = true) := by
  let P (x : Expect × Book) : Prop := x.2.down = downOf b code val ∧
    x.1.swallowed = decide (swOf cfg b code val) ∧ (x.2.ok = true → (book1 b code val).ok = true)
  show P _
  rw [expectKey_eq]
  by_cases hsw : swOf cfg b code val
  · rw [if_pos hsw]; exact ⟨rfl, (decide_eq_true hsw).symm, id⟩
  rw [if_neg hsw]
  -- off the completing press nothing is swallowed; every branch is `book1` with other fields written, `ok` kept or cleared
  have keep : ∀ {x : Expect × Book}, x.2.down = (book1 b code val).down → x.1.swallowed = false →
      (x.2.ok = true → (book1 b code val).ok = true) → P x :=
    fun h1 h2 h3 => ⟨h1, h2.trans (decide_eq_false hsw).symm, h3⟩
  cases alookup code cfg.actions with
  | some a =>
    refine iteInduction (fun _ => ?_) fun _ => keep rfl rfl id
    unfold expActPress
    refine iteInduction (fun _ => ?_) fun _ => keep rfl rfl id
    split
    · exact iteInduction (fun _ => keep rfl rfl id) fun _ => keep rfl rfl nofun
    · exact keep rfl rfl nofun
  | none =>
    refine iteInduction (fun _ => ?_) fun _ => ?_
    · unfold expNotePress; split <;> exact keep rfl rfl id
    · unfold expNoteRelease; split <;> exact keep rfl rfl id

section branches
variable (cfg : Config) (b : Book) (sub : Sub) (code : Code)

theorem expectKey_sw {val : Int} (h : swOf cfg b code val) :
    expectKey cfg b sub code val =
      (⟨some [.sig], keepSt b.pre, some b.pinned.length, true, true, none⟩, book1 b code val) := by
  rw [expectKey_eq, if_pos h]

theorem expectKey_act1 {a : Action} (ha : alookup code cfg.actions = some a) (h : ¬ swOf cfg b code 1) :
    expectKey cfg b sub code 1 = expActPress cfg (book1 b code 1) a := by
  rw [expectKey_eq, if_neg h, ha]; rfl

theorem expectKey_act0 {a : Action} (ha : alookup code cfg.actions = some a) :
    expectKey cfg b sub code 0 = (quietExpect b, { book1 b code 0 with acts := serase a b.acts }) := by
  rw [expectKey_eq, if_neg (fun h => by cases h.1), ha]; rfl

theorem expectKey_note1 (hna : alookup code cfg.actions = none) (h : ¬ swOf cfg b code 1) :
    expectKey cfg b sub code 1 = expNotePress cfg (book1 b code 1) sub code := by
  rw [expectKey_eq, if_neg h, hna]; rfl

theorem expectKey_note0 (hna : alookup code cfg.actions = none) :
    expectKey cfg b sub code 0 = expNoteRelease cfg (book1 b code 0) code := by
  rw [expectKey_eq, if_neg (fun h => by cases h.1), hna]; rfl

end branches

def bk (d : Dev) (snd : List (Nat × Nat)) : Book := ⟨StObs.ofDev d, d.keyTr, d.noteTr, d.actTr, snd, true, false⟩

theorem Inv.eq_bk {cfg : Config} {d : Dev} {b : Book} (h : Inv cfg d b) (hok : b.ok = true) : b = bk d b.snd := by
  have ho := h.okp hok
  obtain ⟨pre, down, pinned, acts, snd, ok, dead⟩ := b
  simp only [bk, Book.mk.injEq]
  exact ⟨h.pre, h.down, ho.pinned, ho.acts, trivial, hok, h.bdead⟩

structure Agrees (cfg : Config) (d : Dev) (ev : Ev) (r : Dev × List Out) (x : Expect × Book) : Prop where
  outs : x.1.outs = some r.2
  st : x.1.st = some (stateKeyOf (StObs.ofDev r.1))
  notes : x.1.notes = some r.1.noteTr.length
  pinned : x.2.pinned = r.1.noteTr
  acts : x.2.acts = r.1.actTr
  panic : actionOf cfg ev = some .panic → x.1.swallowed = false →
    stateKeyOf (StObs.ofDev r.1) = stateKeyOf (StObs.ofDev d) ∧ r.1.noteTr = d.noteTr

theorem Kept.st {d d' : Dev} (h : Kept d d') : keepSt (StObs.ofDev d) = some (stateKeyOf (StObs.ofDev d')) := by
  rw [h.ofDev]; rfl

theorem swOf_iff {cfg : Config} {d : Dev} {b : Book} (hd : DInv cfg d) (hdown : b.down = d.keyTr) (code : Code)
    (val : Int) : swOf cfg b code val ↔ (val = 1 ∧ (kt d code val).exitComplete = true) := by
  unfold swOf Dev.exitComplete downOf
  rw [kt_keyTr, (kt_kept d code val).cfg, hd.cfg_eq, hdown]
  simp only [Bool.and_eq_true]

theorem pair_not_panic {acts : List Action} {p : Action × Action} (h : p ∈ completePairs acts) :
    p.1 ≠ .panic ∧ p.2 ≠ .panic := by
  unfold completePairs pairs at h
  have := (List.mem_filter.mp h).1
  simp only [List.mem_cons, List.not_mem_nil, or_false] at this
  rcases this with rfl | rfl | rfl | rfl <;> simp

theorem expActPress_ok {cfg : Config} {b : Book} {a : Action} (h : (expActPress cfg b a).2.ok = true) :
    (expActPress cfg b a).2.pinned = b.pinned ∧ (expActPress cfg b a).2.acts = sinsert a b.acts ∧
    (expActPress cfg b a).1.notes = some b.pinned.length ∧
    if (sinsert a b.acts).length > 1 ∧ completePairs (sinsert a b.acts) ≠ [] then
      ∃ p, completePairs (sinsert a b.acts) = [p] ∧ (a = p.1 ∨ a = p.2) ∧
        (expActPress cfg b a).1.outs = some [] ∧ (expActPress cfg b a).1.st = some (resetEffect b.pre p)
    else
      (expActPress cfg b a).1.outs = some (if a = .panic then panicMsgs b.pre.ch else []) ∧
      (expActPress cfg b a).1.st = some (actionEffect cfg b.pre a) := by
  unfold expActPress at h ⊢
  simp only [] at h ⊢
  split
  · rename_i hc
    rw [if_pos hc] at h
    split at h
    · rename_i p hp
      split at h
      · rename_i hap
        refine ⟨?_, ?_, ?_, p, hp, hap, ?_⟩ <;> simp only [if_pos hap, and_self]
      · cases h
    · cases h
  · exact ⟨rfl, rfl, rfl, rfl, rfl⟩

theorem key_agrees {cfg : Config} {d : Dev} (hd : DInv cfg d) {snd : List (Nat × Nat)}
    (hcnt : ∀ ch n, d.count ch n = (holders d.noteTr (n, ch) : Int)) (sub : Sub) (code : Code) (val : Int)
    (hok : (expectKey cfg (bk d snd) sub code val).2.ok = true) :
    Agrees cfg d (.key sub code val) (d.handleKey sub code val) (expectKey cfg (bk d snd) sub code val) := by
  have hd1 := (kt_kept d code val).dinv hd
  obtain ⟨-, hv, -⟩ := book1_ok ((expectKey_gen cfg _ sub code val).2.2 hok)
  rcases hv with rfl | rfl
  · -- with the value known `kt` is a record update: spelt out once, so that the projections below compute
    have hkt : kt d code 0 = { d with keyTr := serase code d.keyTr } := rfl
    cases ha : alookup code cfg.actions with
    | some a =>
      rw [handleKey_act0 hd sub code ha, expectKey_act0 _ _ _ _ ha]
      have hk := (kt_kept d code 0).trans (actRelease_kept _ a)
      exact ⟨rfl, hk.st, congrArg _ (congrArg _ hk.noteTr.symm), hk.noteTr.symm,
        (actRelease_actTr (kt d code 0) a).symm, fun _ _ => ⟨congrArg _ hk.ofDev, hk.noteTr⟩⟩
    | none =>
      have hnp : actionOf cfg (.key sub code 0) ≠ some .panic := by simp [actionOf, ha]
      rw [handleKey_note0 hd sub code ha, expectKey_note0 _ _ _ _ ha, hkt]
      unfold expNoteRelease
      show Agrees _ _ _ _ (match alookup code d.noteTr with | none => _ | some (n, ch) => _)
      cases hl : alookup code d.noteTr with
      | none => exact ⟨rfl, rfl, rfl, rfl, rfl, fun h => absurd h hnp⟩
      | some q =>
        obtain ⟨n, ch⟩ := q
        exact ⟨congrArg some (releaseOuts_spec cfg.mode _ _ (hcnt ch n) ch n).symm, rfl, rfl, rfl, rfl,
          fun h => absurd h hnp⟩
  · have hkt : kt d code 1 = { d with keyTr := sinsert code d.keyTr } := rfl
    by_cases hsw : (kt d code 1).exitComplete = true
    · rw [expectKey_sw _ _ _ _ ((swOf_iff hd (b := bk d snd) rfl code 1).mpr ⟨rfl, hsw⟩), handleKey_sw hd sub code hsw, hkt]
      exact ⟨rfl, rfl, rfl, rfl, rfl, fun _ h => by cases h⟩
    have hsw' : ¬ swOf cfg (bk d snd) code 1 := fun h => hsw ((swOf_iff hd (b := bk d snd) rfl code 1).mp h).2
    have hsw := Bool.eq_false_iff.mpr hsw
    cases ha : alookup code cfg.actions with
    | some a =>
      rw [expectKey_act1 _ _ _ _ ha hsw'] at hok ⊢
      rw [handleKey_act1 hd sub code ha hsw, actPress_eq]
      obtain ⟨e1, e2, e3, e4⟩ := expActPress_ok hok
      have hdbl := checkDouble_dbl (withAct (kt d code 1) a)
      have hk := (kt_kept d code 1).trans (withAct_kept _ a)
      have hwd := hk.dinv hd
      have hact : (withAct (kt d code 1) a).actTr = sinsert a d.actTr := rfl
      split at e4
      · rename_i hc
        obtain ⟨p, hp1, hp2, ho, hs⟩ := e4
        have ht := hdbl.mpr hc
        have hf := checkDouble_frame (withAct (kt d code 1) a)
        have hn := hf.noteTr.trans hk.noteTr
        rw [if_pos ht]
        have hst := (checkDouble_one ht hp1).trans (congrArg (resetEffect · p) hk.ofDev)
        refine ⟨ho, hs.trans (congrArg some hst.symm), e3.trans (congrArg _ (congrArg _ hn.symm)), e1.trans hn.symm,
          e2.trans (hf.actTr.trans hact).symm, fun h => ?_⟩
        have hap : a = .panic := by simpa [actionOf, ha] using h
        have := pair_not_panic (acts := _) (p := p) (by rw [hp1]; simp)
        rcases hp2 with e | e
        · exact absurd (e ▸ hap) this.1
        · exact absurd (e ▸ hap) this.2
      · rename_i hc
        have hf := invokePress_frame (withAct (kt d code 1) a) a
        have hn := hf.noteTr.trans hk.noteTr
        have hst := (invokePress_state hwd.cfg_eq hwd.ch hwd.map a).trans (congrArg (actionEffect cfg · a) hk.ofDev)
        rw [if_neg (fun h => hc (hdbl.mp h))]
        refine ⟨?_, e4.2.trans (congrArg some hst.symm), e3.trans (congrArg _ (congrArg _ hn.symm)), e1.trans hn.symm,
          e2.trans (hf.actTr.trans hact).symm, fun h _ => ?_⟩
        · rw [e4.1, invokePress_outs]
          split
          · exact congrArg some (panicOuts_eq hd.ch).symm
          · rfl
        · have hap : a = .panic := by simpa [actionOf, ha] using h
          subst hap
          exact ⟨hst, hn⟩
    | none =>
      have hnp : actionOf cfg (.key sub code 1) ≠ some .panic := by simp [actionOf, ha]
      rw [handleKey_note1 hd sub code ha hsw, expectKey_note1 _ _ _ _ ha hsw', hkt]
      unfold expNotePress
      show Agrees _ _ _ _ (match resolve cfg (StObs.ofDev d) (u8 cfg.vel) sub code with | none => _ | some (n, ch, v) => _)
      cases hr : resolve cfg (StObs.ofDev d) (u8 cfg.vel) sub code with
      | none => exact ⟨rfl, rfl, rfl, rfl, rfl, fun h => absurd h hnp⟩
      | some q =>
        obtain ⟨n, ch, v⟩ := q
        exact ⟨congrArg some (pressOuts_spec cfg.mode _ _ (hcnt ch n) ch n v).symm, rfl, rfl, rfl, rfl,
          fun h => absurd h hnp⟩

def TrKeys (cfg : Config) (d : Dev) : Prop := ∀ k ∈ akeys d.noteTr, k ∈ d.keyTr ∧ alookup k cfg.actions = none

theorem handleKey_core {cfg : Config} (hacc : Accepted cfg = true) {d : Dev} (hd : DInv cfg d) {snd : List (Nat × Nat)}
    (hc : Core d snd) (hk : TrKeys cfg d) (sub : Sub) (code : Code) {val : Int} (hv : val = 0 ∨ val = 1)
    (hpress : val = 1 → code ∉ d.keyTr) :
    Core (d.handleKey sub code val).1 (sounding snd (d.handleKey sub code val).2) ∧
    TrKeys cfg (d.handleKey sub code val).1 := by
  obtain ⟨m, hm⟩ := hd.curMap
  have ht : Tracks (fun _ => False) d snd :=
    ⟨hc.nodup, hc.cnt, fun k h => hd.cfg_eq ▸ hk k h, fun p hp => Or.inl (hc.snd p hp)⟩
  have := handleKey_tracks ht hd.ch (fun p hp => (hd.wf p hp).2) (hd.vel ▸ (accepted_vel hacc).1) hm sub code
    hv hpress
  have hcfg : (d.handleKey sub code val).1.cfg = cfg := (handleKey_model hd sub code val).1.cfg_eq
  exact ⟨⟨this.nodup, this.cnt, fun p hp => (this.snd p hp).resolve_right id⟩, fun k h => hcfg ▸ this.keys k h⟩

theorem Core.silent {d : Dev} {snd : List (Nat × Nat)} (hc : Core d snd) (h : d.noteTr = []) : snd = [] :=
  List.eq_nil_iff_forall_not_mem.mpr fun p hp => by
    obtain ⟨k, hk⟩ := hc.snd p hp
    rw [h] at hk; cases hk

theorem Core.explained {cfg : Config} {d : Dev} {snd : List (Nat × Nat)} (hc : Core d snd) (hk : TrKeys cfg d) :
    ∀ p ∈ snd, ∃ k ∈ d.keyTr, (k, (p.2, p.1)) ∈ d.noteTr := fun p hp =>
  let ⟨k, hk'⟩ := hc.snd p hp
  ⟨k, (hk k (mem_akeys_of_mem hk')).1, hk'⟩

theorem Core.quiescent {cfg : Config} {d : Dev} {snd : List (Nat × Nat)} (hc : Core d snd) (hk : TrKeys cfg d)
    (h : d.keyTr = []) : snd = [] :=
  List.eq_nil_iff_forall_not_mem.mpr fun p hp => by
    obtain ⟨k, hk', -⟩ := hc.explained hk p hp
    rw [h] at hk'; cases hk'

/-- the monitor's book after a step of the model stays related to the device, and no clause fails -/
def StepOK (cfg : Config) (i : Nat) (b : Book) (ev : Ev) (r : Dev × List Out) : Prop :=
  Inv cfg r.1 (checkStep cfg i b ⟨ev, r.2, StObs.ofDev r.1⟩ (some 0) false).2 ∧
  (checkStep cfg i b ⟨ev, r.2, StObs.ofDev r.1⟩ (some 0) false).1 = []

/-- the monitor's clauses from what the model does whatever the history (`hcl`, `hwf`), and on a history inside the
    quantifier (`hok`) from the agreement of the expectation with the model and the tracker invariant -/
theorem step_ok {cfg : Config} {d : Dev} {b : Book} (hinv : Inv cfg d b) (i : Nat) {ev : Ev} {r : Dev × List Out}
    {x : Expect × Book} (he : expectStep cfg b false ev = x) (hd' : DInv cfg r.1) (hdown : x.2.down = r.1.keyTr)
    (hwf : r.2.all wellFormed = true)
    (hcl : if x.1.swallowed = true then r.2 = [.sig] ∧ Kept d r.1
      else r.2.all isMidi = true ∧ ((stateActionOf cfg ev).isSome = true → r.2 = []))
    (hok : x.2.ok = true → Agrees cfg d ev r x ∧ Core r.1 (sounding b.snd r.2) ∧ TrKeys cfg r.1) :
    StepOK cfg i b ev r := by
  have hnotes : r.1.noteTr = d.noteTr → (StObs.ofDev r.1).notes = b.pre.notes := by
    intro h; rw [hinv.pre]; simp only [StObs.ofDev, h, hd'.ana, hinv.dinv.ana]
  have hpanic : r.2.contains Out.panic = false := by
    split at hcl
    · rw [hcl.1]; rfl
    · exact midi_no_panic hcl.1
  constructor
  · rw [checkStep_snd, he]
    refine ⟨hd', rfl, hdown, by simp only [hinv.bdead, hpanic]; rfl, fun h => ?_⟩
    obtain ⟨ag, hc, hk⟩ := hok h
    exact ⟨ag.pinned, ag.acts, hc, hk⟩
  · refine checkStep_nil he hwf ?_ fun h => ?_
    · split at hcl
      · rw [if_pos ‹_›]
        exact ⟨hcl.1, by rw [hinv.pre]; exact congrArg _ hcl.2.ofDev, hnotes hcl.2.noteTr⟩
      · rw [if_neg ‹_›]; exact hcl
    · obtain ⟨ag, hc, hk⟩ := hok h
      refine ⟨fun o ho => Option.some.inj (ag.outs.symm.trans ho), fun s hs => Option.some.inj (ag.st.symm.trans hs),
        fun n h hn hh => ?_, fun hdn _ => hc.quiescent hk (by rw [← hdown, hdn]), fun hp hs => ?_⟩
      · cases hh
        have := Option.some.inj (ag.notes.symm.trans hn)
        simp only [StObs.ofDev, hd'.ana, this, List.length_nil]
      · obtain ⟨h2, h3⟩ := ag.panic hp hs
        exact ⟨by rw [hinv.pre]; exact h2, hnotes h3⟩

theorem sim_key {cfg : Config} (hacc : Accepted cfg = true) {d : Dev} {b : Book} (hinv : Inv cfg d b) (i : Nat)
    (sub : Sub) (code : Code) (val : Int) (hv2 : val ≠ 2) :
    StepOK cfg i b (.key sub code val) (d.handleKey sub code val) := by
  have hd := hinv.dinv
  obtain ⟨hd', hwf, hcl⟩ := handleKey_model hd sub code val
  obtain ⟨m, hm⟩ := hd.curMap
  obtain ⟨g1, g2, g3⟩ := expectKey_gen cfg b sub code val
  have hsw := swOf_iff hd hinv.down code val
  apply step_ok hinv i (expectStep_key hv2) hd' (hwf := hwf (accepted_vel hacc).2)
  · rw [g1, Handlers.handleKey_keyTr hm, kt_keyTr, hinv.down.symm]; rfl
  · rw [g2]
    split at hcl
    · rw [if_pos (decide_eq_true (hsw.mpr ‹_›)), hcl]; exact ⟨rfl, kt_kept d code val⟩
    · rw [if_neg (fun h => ‹¬ _› (hsw.mp (of_decide_eq_true h)))]; exact hcl
  · intro h
    obtain ⟨hbok, hv, hnd⟩ := book1_ok (g3 h)
    have ho := hinv.okp hbok
    have hcore := handleKey_core hacc hd ho.core ho.keys sub code hv (fun e hc => hnd ⟨e, hinv.down ▸ hc⟩)
    rw [hinv.eq_bk hbok] at h ⊢
    exact ⟨key_agrees hd ho.core.cnt sub code val h, hcore⟩

theorem sim_quiet {cfg : Config} {d d' : Dev} {b : Book} {ev : Ev} (hinv : Inv cfg d b) (i : Nat)
    (he : expectStep cfg b false ev = (quietExpect b, b)) (hk : Kept d d') (hkey : d'.keyTr = d.keyTr)
    (hact : d'.actTr = d.actTr) : StepOK cfg i b ev (d', []) := by
  apply step_ok hinv i he (hk.dinv hinv.dinv) (hinv.down.trans hkey.symm) rfl ⟨rfl, fun _ => rfl⟩
  intro hok
  have ho := hinv.okp hok
  refine ⟨⟨rfl, by rw [← hk.st]; exact congrArg keepSt hinv.pre, ?_, ?_, ho.acts.trans hact.symm,
    fun _ _ => ⟨congrArg _ hk.ofDev, hk.noteTr⟩⟩, hk.core ho.core,
    fun k hkm => hkey ▸ ho.keys k (hk.noteTr ▸ hkm)⟩
  · show some b.pinned.length = _; rw [ho.pinned, hk.noteTr]
  · exact ho.pinned.trans hk.noteTr.symm

theorem step_sim {cfg : Config} (hacc : Accepted cfg = true) {d : Dev} {b : Book} (hinv : Inv cfg d b) (i : Nat)
    (e : Ev) (hk : ∀ s n c v, e ≠ Ev.abs s n c v) : StepOK cfg i b e (d.step e) := by
  refine Handlers.step_cases (P := StepOK cfg i b e) d e (fun h => absurd (hinv.dinv.dead ▸ h) (by decide)) ?_ ?_ ?_
    (fun s n c v h => absurd h (hk s n c v)) ?_
  · rintro rfl; exact sim_quiet hinv i rfl (Kept.refl d) rfl rfl
  · rintro s c rfl; exact sim_quiet hinv i (by simp [expectStep, quietExpect]) (Kept.refl d) rfl rfl
  · rintro s c v rfl hv; exact sim_key hacc hinv i s c v hv
  · rintro x y z l rfl; exact sim_quiet hinv i rfl ⟨rfl, rfl, rfl, rfl, rfl, rfl, rfl, rfl, rfl, rfl⟩ rfl rfl

end Hidi.EngineSim
