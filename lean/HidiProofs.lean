import HidiProofs.FloatLemmas
import HidiProofs.NotesLemmas
import HidiProofs.AxisLemmas
import HidiProofs.AxisKeyLemmas
import HidiProofs.EngineSim
import HidiProofs.KeyHistories
import HidiProofs.Mixed
import HidiProofs.AnaIndep
import HidiProofs.KInvReach
import HidiProofs.LedSpec
import HidiProofs.MidiInLemmas
import HidiProofs.FanLive
import HidiProofs.Props.C01
import HidiProofs.Props.C02
import HidiProofs.Props.C02mixed
import HidiProofs.Props.C03
import HidiProofs.Props.C03mixed
import HidiProofs.Props.C04
import HidiProofs.Props.C04mixed
import HidiProofs.Props.C05full
import HidiProofs.Props.C05midiev
import HidiProofs.Props.C06midiev
import HidiProofs.Props.C06
import HidiProofs.Props.C06acc
import HidiProofs.Props.C07
import HidiProofs.Props.C08
import HidiProofs.Props.C09
import HidiProofs.Props.C10
import HidiProofs.Props.C11
import HidiProofs.Props.C12
import HidiProofs.Props.C13
import HidiProofs.Props.C13mixed
import HidiProofs.Props.C14
import HidiProofs.Props.C14mixed
import HidiProofs.Props.C20
import HidiProofs.Props.C15
import HidiProofs.Props.C16
import HidiProofs.Props.C16life
import HidiProofs.Props.C17
import HidiProofs.Props.C18
import HidiProofs.Props.C19
import HidiProofs.Bodies
import HidiProofs.Props.GenTie
import HidiProofs.BodiesAbs
import HidiProofs.BodiesMidiIn
import HidiProofs.Props.GenTieAbs
import HidiProofs.Props.C01gentie
import HidiProofs.Props.C17gentie
import HidiProofs.Props.GenTieRun
import HidiProofs.Props.C11gentie
import HidiProofs.Props.C12gentie
import HidiProofs.Props.C20gentie
import HidiProofs.LedTie
import HidiProofs.Props.C17frame
